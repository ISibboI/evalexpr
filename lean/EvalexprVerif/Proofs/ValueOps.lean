/-
Proofs/ValueOps.lean — what the checked integer operations and the `usize` conversions of
Model/Value.lean compute; the one place where `checkedAbs` is unfolded.
-/
import EvalexprVerif.Model.Value

namespace Evalexpr

theorem i64Of_none (z : Int) (h : inI64 z = false) : i64Of z = none := by simp [i64Of, h]
theorem i64Of_some (z : Int) (h : inI64 z = true) : i64Of z = some (Int64.ofInt z) := by simp [i64Of, h]

/- Kernel note: `checkedAbs i` must never be compared by definitional unfolding with its `match`
body for a symbolic `i` (`unfold`, `simp [checkedAbs]`, even generating `checkedAbs.eq_1` fail with
"deep recursion"): the kernel unfolds the matcher first and evaluates `inI64 ↑(natAbs _)`, where
`Int.ofNat _ < 2^63` ends in `Nat.sub (succ n) 9223372036854775808` on a symbolic `n`, i.e. 2^63
unfolding steps. `checkedAbs_of` unfolds `checkedAbs` as a *function* (`congrFun`), which the
kernel checks structurally, and replaces the test by a variable. -/
theorem checkedAbs_of (a : Int64) (o : Option Int64) (h : i64Of (a.toInt.natAbs : Int) = o) :
    checkedAbs a = match o with
      | some r => .ok r
      | none => .error (.negationError (.int a)) := by
  have E := congrFun (by delta checkedAbs; exact rfl : checkedAbs = _) a
  rw [E]
  cases o <;> simp only [h]

theorem intFromUsize_of_lt {n : Nat} (h : n < 2 ^ 63) : intFromUsize n = .ok (Int64.ofNat n) := by
  rw [intFromUsize, if_pos h, Int64.ofInt_eq_ofNat]

theorem intIntoUsize_neg (a : Int64) (h : a.toInt < 0) : intIntoUsize a = .error (.intIntoUsize a) := by
  simp [intIntoUsize]; omega
theorem intIntoUsize_nonneg (a : Int64) (h : ¬ a.toInt < 0) : intIntoUsize a = .ok a.toInt.toNat := by
  simp [intIntoUsize]; omega

/-- the shift amount Lean's `Int64` shifts use (`k.toBitVec.smod 64`) is `k mod 64` on the bit pattern: the low 6 bits -/
theorem smod64_toNat (k : Int64) : (k.toBitVec.smod 64).toNat = k.toBitVec.toNat % 64 := by
  have h : (k.toBitVec.smod 64).toInt = k.toBitVec.toInt.fmod 64 := by
    rw [BitVec.toInt_smod]; rfl
  have h64 : (64 : Int) > 0 := by decide
  rw [Int.fmod_eq_emod_of_nonneg _ (by omega)] at h
  have hlt := (k.toBitVec.smod 64).isLt
  have hk := k.toBitVec.isLt
  have e1 := BitVec.toInt_eq_toNat_cond (k.toBitVec.smod 64)
  have e2 := BitVec.toInt_eq_toNat_cond k.toBitVec
  split at e1 <;> split at e2 <;> omega

end Evalexpr

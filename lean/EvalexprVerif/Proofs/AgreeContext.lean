/- Proofs/AgreeContext.lean — extracted tables equal the expected ones (see Spec/Tables.lean). -/
import EvalexprVerif.Generated.ContextPolicies
import EvalexprVerif.Spec.Tables

namespace Evalexpr.Agree
open Evalexpr.Spec

theorem contextPolicies_agree : Generated.contextPolicies = Tables.contextPolicies := rfl

end Evalexpr.Agree

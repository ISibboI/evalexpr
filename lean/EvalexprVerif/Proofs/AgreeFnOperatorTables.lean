/-
The operator tables of src/operator/mod.rs (`precedence` … `is_unary`, the four constructor helpers) and the token predicates of
src/token/mod.rs as translated on this run (`Generated/FnOperatorTables.lean`, `Generated/FnToken.lean`) equal the Model's tables
for ALL operators / tokens: split on the constructor, then `rfl`.
-/
import EvalexprVerif.Generated.FnOperatorTables
import EvalexprVerif.Generated.FnToken
import EvalexprVerif.Model.Operator
import EvalexprVerif.Model.Lexer

namespace Evalexpr.AgreeFn
open Evalexpr

theorem fn_Operator_precedence_agree (o : Operator) : Gen.Operator.precedence o = o.precedence := by
  cases o <;> eq_refl
theorem fn_Operator_is_left_to_right_agree (o : Operator) : Gen.Operator.is_left_to_right o = o.isLeftToRight := by
  cases o <;> eq_refl
theorem fn_Operator_is_sequence_agree (o : Operator) : Gen.Operator.is_sequence o = o.isSequence := by
  cases o <;> eq_refl
theorem fn_Operator_max_argument_amount_agree (o : Operator) : Gen.Operator.max_argument_amount o = o.maxArgumentAmount := by
  cases o <;> eq_refl
theorem fn_Operator_is_leaf_agree (o : Operator) : Gen.Operator.is_leaf o = o.isLeaf := by
  cases o <;> eq_refl
theorem fn_Operator_is_unary_agree (o : Operator) : Gen.Operator.is_unary o = o.isUnary := by
  cases o <;> eq_refl
theorem fn_Operator_value_agree (v : Value) : Gen.Operator.value v = .const v := rfl
theorem fn_Operator_variable_identifier_write_agree (id : Str) : Gen.Operator.variable_identifier_write id = .varWrite id := rfl
theorem fn_Operator_variable_identifier_read_agree (id : Str) : Gen.Operator.variable_identifier_read id = .varRead id := rfl
theorem fn_Operator_function_identifier_agree (id : Str) : Gen.Operator.function_identifier id = .fn id := rfl

theorem fn_Token_is_leftsided_value_agree (t : Token) : Gen.Token.is_leftsided_value t = t.isLeftsidedValue := by
  cases t <;> eq_refl
theorem fn_Token_is_rightsided_value_agree (t : Token) : Gen.Token.is_rightsided_value t = t.isRightsidedValue := by
  cases t <;> eq_refl
theorem fn_Token_is_assignment_agree (t : Token) : Gen.Token.is_assignment t = t.isAssignment := by
  cases t <;> eq_refl

end Evalexpr.AgreeFn

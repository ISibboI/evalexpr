/-
The helpers of the operator-tree builder of src/tree/mod.rs as translated on this run (`Generated/FnTreeBuild.lean`) against
`Model/Tree.lean`, for ALL nodes and stacks, not only those the parser builds. `collapse_root_stack_to` / `collapse_all_sequences`
are translated `loop`s (`Rs.loopFix`, a partial fixpoint: `none` = divergence) and `insert_back_prioritized` recurses through
`self.children.last_mut()`: each theorem says that the translation returns `some _` (termination) and that the result is the
Model's; in particular the `unwrap()`s do not fire. A `&mut Vec<Node>` parameter is compared (reversed: the Model's stack has its
top at the head) where the result is `Ok` (`OutAgrees`). The proofs split on the conditions of the Model, not on the shape of the
Rust bodies.
-/
import EvalexprVerif.Generated.FnTreeBuild
import EvalexprVerif.Translate.Tactics
import EvalexprVerif.Proofs.AgreeFnOperatorTables
import EvalexprVerif.Proofs.AgreeFnTree
import EvalexprVerif.Proofs.TreeInsert

namespace Evalexpr.AgreeFn
open Evalexpr

theorem fn_Node_new_agree (op : Operator) : Gen.Node.new op = Node.new op := rfl
theorem fn_Node_root_node_agree : Gen.Node.root_node = Node.rootNode := rfl
theorem fn_Node_has_enough_children_agree (n : Node) : Gen.Node.has_enough_children n = n.hasEnoughChildren := by
  simp only [Gen.Node.has_enough_children, Node.hasEnoughChildren, fn_Node_children_agree, fn_Node_operator_agree,
    fn_Operator_max_argument_amount_agree, Rs.len_nodes]
  cases n.op.maxArgumentAmount <;> eq_refl
theorem fn_Node_has_too_many_children_agree (n : Node) : Gen.Node.has_too_many_children n = n.hasTooManyChildren := by
  simp only [Gen.Node.has_too_many_children, Node.hasTooManyChildren, fn_Node_children_agree, fn_Node_operator_agree,
    fn_Operator_max_argument_amount_agree, Rs.len_nodes]
  cases n.op.maxArgumentAmount <;> eq_refl

namespace TreeBuilder
-- the evaluation lemmas of the `Vec` / comparison vocabulary the tree builder uses (as global simp lemmas they would disturb the other agreement proofs)
attribute [scoped simp] Rs.lt_nat Rs.le_nat Rs.gt_nat Rs.ge_nat Rs.eq_option_some Rs.eq_option_none_some Rs.eq_option_some_none Rs.eq_option_none Rs.set_last_def Rs.last_def
-- the translated callees are replaced by the Model's functions wherever they occur
attribute [scoped simp] fn_Node_operator_agree fn_Node_children_agree fn_Operator_precedence_agree fn_Operator_is_unary_agree fn_Operator_is_left_to_right_agree fn_Operator_is_leaf_agree fn_Operator_is_sequence_agree fn_Node_has_enough_children_agree fn_Node_has_too_many_children_agree fn_Node_new_agree fn_Node_root_node_agree
end TreeBuilder
open TreeBuilder

/-- a function with a `&mut Vec<Node>` parameter (Gen: the vector, last = top; Model: a list, head = top) against the Model:
the results agree, and the final stacks agree (reversed) when the result is `Ok` -/
def OutAgrees {α β : Type} (f : α → β) (m : Res (α × List Node)) (g : Res β × List Node) : Prop :=
  match m with
  | .ok (a, st) => g = (.ok (f a), st.reverse)
  | .error e => g.1 = .error e

/-- what a caller sees of such a function: the Model's answer, and with an `Err` some stack (the callers drop it with `?`) -/
theorem OutAgrees.eq {α β : Type} {f : α → β} {m : Res (α × List Node)} {g : Res β × List Node} (h : OutAgrees f m g) :
    ∃ junk, g = match m with
      | .ok (a, st) => (.ok (f a), st.reverse)
      | .error e => (.error e, junk) := by
  rcases m with e | ⟨a, st⟩
  · exact ⟨g.2, Prod.ext h rfl⟩
  · exact ⟨[], h⟩

/-- for every `Vec` (`fn_collapse_root_stack_to_agree` below is its instance at a reversed Model stack) -/
theorem collapse_root_stack_to_spec (stk : List Node) (root goal : Node) :
    ∃ g, Gen.collapse_root_stack_to stk root goal = some g ∧ OutAgrees id (collapseRootStackTo stk.reverse root goal) g := by
  unfold Gen.collapse_root_stack_to
  refine Rs.D.run_loopFix_bind_induct (fun s => s.1.length)
    (fun s g => OutAgrees id (collapseRootStackTo s.1.reverse s.2 goal) g) ?_ (stk, root)
  -- one pass through the loop body; `K` stands for the further passes, which have the property on a shorter stack (`hK`)
  rintro ⟨stk, root⟩ K hK
  rcases List.eq_nil_or_concat stk with rfl | ⟨stk, higher, rfl⟩
  · -- empty stack: `UnmatchedRBrace`
    exact ⟨_, rfl, rfl⟩
  · simp [collapseRootStackTo]
    split
    · -- an open sequence that binds tighter than the goal takes `root` as a child: next pass
      simpa using hK (stk, _) (by simp)
    · -- anything else is pushed back: `break`
      simp [OutAgrees]

theorem fn_collapse_root_stack_to_agree (st : List Node) (root goal : Node) :
    ∃ g, Gen.collapse_root_stack_to st.reverse root goal = some g ∧ OutAgrees id (collapseRootStackTo st root goal) g := by
  simpa using collapse_root_stack_to_spec st.reverse root goal

theorem collapse_all_sequences_spec (stk : List Node) :
    ∃ g, Gen.collapse_all_sequences stk = some g ∧
      OutAgrees id ((collapseAllSequences stk.reverse).map fun s => ((), s)) g := by
  rcases List.eq_nil_or_concat stk with rfl | ⟨stk, root, rfl⟩
  · -- the first `pop` finds nothing: `UnmatchedRBrace`
    exact ⟨_, rfl, rfl⟩
  simp only [Gen.collapse_all_sequences, collapseAllSequences, List.concat_eq_append, Rs.pop_def, List.getLast?_concat,
    List.dropLast_concat, Rs.D.pure_bind, List.reverse_concat]
  refine Rs.D.run_loopFix_bind_induct (fun s => s.1.length)
    (fun s g => OutAgrees id ((collapseAllLoop s.1.reverse s.2).map fun s => ((), s)) g) ?_ (stk, root)
  rintro ⟨stk, root⟩ K hK
  rw [collapseAllLoop.eq_def]
  simp only [fn_Node_operator_agree, fn_Operator_is_sequence_agree, fn_Node_has_too_many_children_agree, Rs.eq_operator_rootNode,
    Operator.isRoot]
  by_cases hr : root.op.kind = OpKind.rootNode
  · -- a root node (an open brace) ends the collapse: pushed back, unless it has too many children
    by_cases hm : root.hasTooManyChildren = true <;> simp [hr, hm, OutAgrees, Except.map]
  · rcases List.eq_nil_or_concat stk with rfl | ⟨stk, higher, rfl⟩
    · -- nothing below it: `UnmatchedRBrace`
      simp [hr, OutAgrees, Except.map]
    · by_cases hs : root.op.isSequence = true
      · -- a sequence becomes the last child of the node below it: next pass, on a shorter stack
        simpa [hr, hs] using hK (stk, _) (by simp)
      · -- any other node ends the collapse like a root node does
        by_cases hm : root.hasTooManyChildren = true <;> simp [hr, hs, hm, OutAgrees, Except.map]

theorem fn_collapse_all_sequences_agree (st : List Node) :
    ∃ g, Gen.collapse_all_sequences st.reverse = some g ∧
      OutAgrees id ((collapseAllSequences st).map fun s => ((), s)) g := by
  simpa using collapse_all_sequences_spec st.reverse

theorem fn_Node_insert_back_prioritized_agree (n node : Node) (b : Bool) :
    ∃ g, Gen.Node.insert_back_prioritized n node b = some g ∧
      n.insertBackPrioritized node b = g.1.map (fun _ => g.2) := by
  induction n using Rs.node_ind generalizing node b with | _ op cs IH
  rw [Gen.Node.insert_back_prioritized.eq_1, Node.insertBackPrioritized]
  by_cases hL : op.isLeaf = true
  · -- `self` is a leaf
    simp [hL, descends]
    rs_split_ifs <;> exact ⟨_, _, rfl, rfl⟩
  by_cases hE : (some cs.length == op.maxArgumentAmount) = true
  · -- `has_enough_children`: there is a last child `c` (the operator would be a leaf otherwise), so the `unwrap`s do not fire;
    -- the recursive call is the induction hypothesis, `g` its result
    obtain ⟨init, c, rfl⟩ := (List.eq_nil_or_concat cs).resolve_left fun h => hL (Spec.leaf_of_zero (by simpa [h] using hE))
    obtain ⟨g, hg, hm⟩ := IH c (by simp) node false
    simp [Node.hasEnoughChildren, descends, Operator.isRoot, Spec.insertAtLast_snoc, insertAtLast, hg, hm, hL]
    rs_split_ifs
    -- the exits of the Rust body in order: precedence violation; the node goes below the last child (`Ok` or `Err` with `g`);
    -- else `node` is a leaf, one of the four root-node checks fails, or `node` takes the last child as its own
    all_goals rcases g with ⟨_ | _, g2⟩ <;> exact ⟨_, _, rfl, rfl⟩
  · -- room for another child
    simp [Node.hasEnoughChildren, hL, hE, descends]
    rs_split_ifs <;> exact ⟨_, _, rfl, rfl⟩

end Evalexpr.AgreeFn

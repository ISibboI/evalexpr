/-
Proofs/FloatOrder.lean — order facts about Lean's `Float` `<` / `≤`, proved from the kernel-level
IEEE model (`Float.Model`, `UnpackedFloat.compare`): away from NaN, `compare` is core's lexicographic
`compare` of a key in `Int × Int × Int` (`lexOrd`), so `≤` is reflexive and total away from NaN, transitive,
and implied by `<` by core's `Std.ReflCmp` / `OrientedCmp` / `TransCmp` instances for lexicographic products.
Core states no lemma about `Float` or `UnpackedFloat` itself. Used for `min` / `max` (property C10).
-/
namespace Evalexpr.FloatOrder
open Float.Model Float.Model.UnpackedFloat Std
attribute [local instance] lexOrd

/-- a key into `Int × Int × Int` (lexicographic) that realises the IEEE order on non-NaN values -/
def ukey : UnpackedFloat → Int × Int × Int
  | .infinity .negative => (-2, 0, 0)
  | .infinity .positive => (2, 0, 0)
  | .notANumber => (0, 0, 0)
  | .zero _ => (0, 0, 0)
  | .finite .negative m e _ => (-1, -e, -(m : Int))
  | .finite .positive m e _ => (1, e, (m : Int))

/-- core's `lexOrd` on a pair -/
theorem lex_compare {α β} [Ord α] [Ord β] (p q : α × β) :
    compare p q = (compare p.1 q.1).then (compare p.2 q.2) := rfl

@[simp] theorem sign_cmp_nn : compare Sign.negative Sign.negative = .eq := rfl
@[simp] theorem sign_cmp_np : compare Sign.negative Sign.positive = .lt := rfl
@[simp] theorem sign_cmp_pn : compare Sign.positive Sign.negative = .gt := rfl
@[simp] theorem sign_cmp_pp : compare Sign.positive Sign.positive = .eq := rfl

theorem ordering_ext {o o' : Ordering} (hlt : o = .lt ↔ o' = .lt) (hgt : o = .gt ↔ o' = .gt) : o = o' := by
  cases o <;> cases o' <;> simp_all

/-- `compare` is undefined exactly at NaN, and elsewhere the lexicographic comparison of the keys.
All entries of the table but two are constants; two finite values of equal sign compare exponents,
then mantissas. -/
theorem compare_ukey (x y : UnpackedFloat) :
    x.compare y = if x.isNaN || y.isNaN then none else some (compare (ukey x) (ukey y)) := by
  -- each side: -∞, +∞; NaN; -0, +0; negative finite, positive finite
  rcases x with (_|_) | _ | (_|_) | ⟨(_|_), m1, e1, h1⟩ <;>
    rcases y with (_|_) | _ | (_|_) | ⟨(_|_), m2, e2, h2⟩
  case finite.positive.finite.positive | finite.negative.finite.negative =>
    -- exponents, then mantissas (reversed for two negative values)
    refine congrArg some (ordering_ext ?_ ?_) <;>
      simp [ukey, lex_compare, Ordering.then_eq_lt, Ordering.then_eq_gt, Int.compare_eq_lt,
        Int.compare_eq_gt, Nat.compare_eq_lt, Nat.compare_eq_gt] <;> omega
  -- a NaN on either side gives `none`; every other pair is decided by the classes and signs alone
  all_goals rfl

theorem float_isNaN (a : Float) : a.isNaN = a.toModel.unpack.isNaN := rfl

def key (a : Float) : Int × Int × Int := ukey a.toModel.unpack

theorem lt_iff (a b : Float) :
    a < b ↔ a.isNaN = false ∧ b.isNaN = false ∧ compare (key a) (key b) = .lt := by
  show decide (a.toModel.unpack.lt b.toModel.unpack = true) = true ↔ _
  rw [decide_eq_true_eq, UnpackedFloat.lt, compare_ukey, float_isNaN, float_isNaN]
  cases a.toModel.unpack.isNaN <;> cases b.toModel.unpack.isNaN <;> simp [key]

theorem le_iff (a b : Float) :
    a ≤ b ↔ a.isNaN = false ∧ b.isNaN = false ∧ (compare (key a) (key b)).isLE = true := by
  show decide (a.toModel.unpack.le b.toModel.unpack = true) = true ↔ _
  rw [decide_eq_true_eq, UnpackedFloat.le, compare_ukey, float_isNaN, float_isNaN]
  cases a.toModel.unpack.isNaN <;> cases b.toModel.unpack.isNaN <;> simp [key]

theorem not_nan_of_le (a b : Float) (h : a ≤ b) : a.isNaN = false ∧ b.isNaN = false :=
  let ⟨ha, hb, _⟩ := (le_iff a b).1 h
  ⟨ha, hb⟩

theorem le_refl (a : Float) (h : a.isNaN = false) : a ≤ a :=
  (le_iff a a).2 ⟨h, h, ReflCmp.isLE_rfl⟩

theorem le_trans (a b c : Float) (h1 : a ≤ b) (h2 : b ≤ c) : a ≤ c := by
  rw [le_iff] at *
  exact ⟨h1.1, h2.2.1, TransCmp.isLE_trans h1.2.2 h2.2.2⟩

theorem le_of_lt (a b : Float) (h : a < b) : a ≤ b := by
  rw [lt_iff] at h
  exact (le_iff a b).2 ⟨h.1, h.2.1, Ordering.isLE_of_eq_lt h.2.2⟩

theorem le_of_not_lt (a b : Float) (ha : a.isNaN = false) (hb : b.isNaN = false) (h : ¬ a < b) :
    b ≤ a :=
  (le_iff b a).2 ⟨hb, ha, OrientedCmp.isLE_of_isGE
    (Ordering.isGE_iff_ne_lt.2 fun h' => h ((lt_iff a b).2 ⟨ha, hb, h'⟩))⟩

end Evalexpr.FloatOrder

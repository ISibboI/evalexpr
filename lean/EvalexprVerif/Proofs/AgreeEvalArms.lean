/- Proofs/AgreeEvalArms.lean — the two arms extracted from `Operator::eval` / `eval_mut` are the ones the model assumes: the
read-only evaluator refuses exactly the nine assignment operators, `eval_mut` falls through to `eval`. -/
import EvalexprVerif.Generated.EvalArms

namespace Evalexpr.Agree


theorem evalAssignArm_agree :
    Generated.evalAssignArm =
      (["AddAssign", "AndAssign", "Assign", "DivAssign", "ExpAssign", "ModAssign", "MulAssign",
        "OrAssign", "SubAssign"], "Err ( EvalexprError :: ContextNotMutable )") := rfl
theorem evalMutFallthrough_agree :
    Generated.evalMutFallthrough = "self . eval ( arguments , context )" := rfl

end Evalexpr.Agree

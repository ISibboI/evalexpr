/-
Proofs/NoPanic.lean — property C01: the library never panics. Every model function that mirrors a
Rust expression able to panic returns `.error (.panic site)` at exactly that point; the theorems
below say that this outcome is unreachable (the builtins' `arguments[i]` are the hypothesis
`BuiltinsNoPanic`).
The depth of the tree is not bounded by `ts.length + 1` (`C01_depth_counterexample`): a separator
adds two levels, the sequence node and the parenthesis node around its items, so `C01_depth` counts
the separators once more; without separators the shorter bound holds (`C01_depth_noSep`).
-/
import EvalexprVerif.Model.Interface
import EvalexprVerif.Proofs.NoPanicLex
import EvalexprVerif.Proofs.NoPanicTree
import EvalexprVerif.Proofs.NoPanicEval
import EvalexprVerif.Proofs.NoPanicDepth

namespace Evalexpr.Spec
open Evalexpr

theorem C01_lex (s : List Char) : (tokenize s).isPanic = false := tokenize_noPanic s

theorem C01_build (ts : List Token) : (tokensToOperatorTree ts).isPanic = false := build_noPanic ts

theorem C01_run_string (hb : BuiltinsNoPanic) (k : Kind) (m : Mode) (src : List Char) (s : St)
    (hc : NoPanicCtx s.ctx) : (runString k m src s).1.isPanic = false := by
  unfold runString
  have h := buildString_noPanic src
  cases hb' : buildOperatorTree src with
  | error e => rw [hb'] at h; exact h
  | ok n => exact C01_run_tree hb k m n s hc

/-- the bound `ts.length + 1` does not hold: the single token `,` builds
`RootNode[Tuple[RootNode[], RootNode[]]]` -/
theorem C01_depth_counterexample :
    ∃ t, tokensToOperatorTree [.comma] = .ok t ∧ Node.depth t = 3 ∧
      ¬ Node.depth t ≤ [Token.comma].length + 1 := by
  refine ⟨⟨.rootNode, [⟨.tuple, [⟨.rootNode, []⟩, ⟨.rootNode, []⟩]⟩]⟩, rfl, ?_, ?_⟩ <;>
    simp [depth_mk]

theorem C01_depth (ts : List Token) (t : Node) (h : tokensToOperatorTree ts = .ok t) :
    Node.depth t ≤ ts.length + ts.countP isSepTok + 1 := depth_le_tokens ts t h

theorem C01_depth_noSep (ts : List Token) (hs : ∀ t ∈ ts, isSepTok t = false) (t : Node)
    (h : tokensToOperatorTree ts = .ok t) : Node.depth t ≤ ts.length + 1 := by
  have h1 := C01_depth ts t h
  have h2 : ts.countP isSepTok = 0 := by
    rw [List.countP_eq_zero]
    intro a ha; simp [hs a ha]
  omega

end Evalexpr.Spec

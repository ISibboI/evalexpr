/- Proofs/AgreeBuiltin.lean — extracted tables equal the expected ones (see Spec/Tables.lean). -/
import EvalexprVerif.Generated.BuiltinTable
import EvalexprVerif.Spec.Tables
import EvalexprVerif.Model.Builtin

namespace Evalexpr.Agree
open Evalexpr.Spec

theorem builtinTable_agree : Generated.builtinTable = Tables.builtinTable := rfl
theorem builtinHelpers_agree : Generated.builtinHelpersRecognised = true := rfl
/-- the model's name → builtin table has the documented names, in the documented order -/
theorem builtinNames_agree :
    Evalexpr.builtinTable.map (fun p => String.ofList p.1) = Tables.builtinTable.map (·.1) := rfl

end Evalexpr.Agree

/-
Proofs/IterRename.lean — property C14 at operator level, renaming. Renaming the variables (injectively)
is a map on contexts and states with which `get_value`, `set_value` and the function table commute;
so applying the renamed operator in the renamed state gives the renamed outcome (`rn_op`, `rn_assign`),
in every context.
-/
import EvalexprVerif.Proofs.IterEval

namespace Evalexpr.Spec
open Evalexpr

theorem beq_rename {r : Str → Str} (hinj : Function.Injective r) (a b : Str) :
    (r a == r b) = (a == b) := by
  rw [Bool.eq_iff_iff, beq_iff_eq, beq_iff_eq]
  exact ⟨fun h => hinj h, fun h => congrArg r h⟩

theorem alookup_rename {r : Str → Str} (hinj : Function.Injective r) (k : Str) :
    ∀ l : List (Str × Value), alookup (r k) (l.map fun (k, v) => (r k, v)) = alookup k l
  | [] => rfl
  | (k', v) :: rest => by
    simp only [List.map_cons, alookup, beq_rename hinj, alookup_rename hinj k rest]

theorem ainsert_rename {r : Str → Str} (hinj : Function.Injective r) (k : Str) (v : Value) :
    ∀ l : List (Str × Value), ainsert (r k) v (l.map fun (k, v) => (r k, v)) =
      (ainsert k v l).map fun (k, v) => (r k, v)
  | [] => rfl
  | (k', v') :: rest => by
    simp only [List.map_cons, ainsert, beq_rename hinj, ainsert_rename hinj k v rest]
    split <;> rfl

theorem hashMap_setValue_rename {r : Str → Str} (hinj : Function.Injective r) (h : HashMapCtx)
    (x : Str) (v : Value) :
    (renameVars r h).setValue (r x) v = (h.setValue x v).map (renameVars r) := by
  simp only [HashMapCtx.setValue, renameVars, alookup_rename hinj, ainsert_rename hinj]
  repeat' split
  all_goals rfl

/-- the variables renamed, in the two kinds of context that have any -/
def rnCtx (r : Str → Str) : Ctx → Ctx
  | .hashMap h => .hashMap (renameVars r h)
  | .noStorage h => .noStorage (renameVars r h)
  | c => c

abbrev rnSt (r : Str → Str) (s : St) : St := ⟨rnCtx r s.ctx, s.log⟩

/-- the renamed image of an outcome -/
def rnOut {α : Type} (r : Str → Str) (out : Res α × St) : Res α × St :=
  (rnRes r out.1, rnSt r out.2)

theorem getValue_rn {r : Str → Str} (hinj : Function.Injective r) (c : Ctx) (x : Str) :
    (rnCtx r c).getValue (r x) = c.getValue x := by
  cases c <;> first | rfl | exact alookup_rename hinj x _

theorem setValue_rn {r : Str → Str} (hinj : Function.Injective r) (c : Ctx) (x : Str) (v : Value) :
    (rnCtx r c).setValue (r x) v = (c.setValue x v).map (rnCtx r) := by
  cases c with
  | hashMap h =>
    simp only [rnCtx, Ctx.setValue, hashMap_setValue_rename hinj]
    cases h.setValue x v <;> rfl
  | _ => rfl

theorem userFn_rn (r : Str → Str) (c : Ctx) : (rnCtx r c).userFn = c.userFn := by cases c <;> rfl

theorem builtinsDisabled_rn (r : Str → Str) (c : Ctx) :
    (rnCtx r c).builtinsDisabled = c.builtinsDisabled := by cases c <;> rfl

theorem rnOut_clean {α : Type} {r : Str → Str} {x : Res α} (hx : Clean x) (s : St) :
    (x, rnSt r s) = rnOut r (x, s) :=
  congrArg (·, rnSt r s) (hx.rnRes r).symm

theorem rnOut_bindE {α β : Type} {r : Str → Str} {a : Res α × St} {k k' : α → St → Res β × St}
    (hk : ∀ v, k' v (rnSt r a.2) = rnOut r (k v a.2)) :
    bindE (rnOut r a) k' = rnOut r (bindE a k) := by
  rcases a with ⟨e | v, s⟩
  · rfl
  · exact hk v

/-- no answer of a function of the context is changed by the renaming -/
def FnStable (r : Str → Str) (c : Ctx) : Prop :=
  ∀ id f arg, c.userFn id = some f → renameRes r (f arg) = f arg

theorem FnStable.of_noFabricate {r : Str → Str} {c : Ctx} (hnf : NoFabricate c) : FnStable r c :=
  fun _ _ arg hf => (hnf.clean hf arg).renameRes r

theorem FnStable.of_sameFns {r : Str → Str} {s s' : St} (h : SameFns s s') (hF : FnStable r s.ctx) :
    FnStable r s'.ctx :=
  fun id f arg hf => hF id f arg ((h.1 id).symm.trans hf)

theorem rn_varRead {r : Str → Str} (hinj : Function.Injective r) (x : Str) (args : List Value)
    (s : St) :
    Operator.eval (.varRead (r x)) args (rnSt r s) = rnOut r (Operator.eval (.varRead x) args s) := by
  simp only [Operator.eval]
  split
  · rw [getValue_rn hinj]
    cases s.ctx.getValue x <;> rfl   -- `x` unbound / bound, on both sides alike
  · rfl                              -- wrong arity

theorem afterCall_rn (r : Str → Str) (c : Ctx) (id : Str) (arg : Value) {x : Res Value}
    (hx : rnRes r x = x) : afterCall (rnCtx r c) id arg x = rnRes r (afterCall c id arg x) := by
  unfold afterCall
  rw [builtinsDisabled_rn]
  repeat' split
  · exact ((clean_builtin_call _ _).rnRes r).symm   -- the builtin of that name answers
  · rfl                                             -- there is no such builtin
  · exact hx.symm                                   -- builtins are disabled: the answer stands
  · exact hx.symm                                   -- any other answer stands

theorem rn_callFunction {r : Str → Str} {s : St} (hF : FnStable r s.ctx) (id : Str) (arg : Value) :
    callFunction id arg (rnSt r s) = rnOut r (callFunction id arg s) := by
  rw [callFunction_eq, callFunction_eq, userFn_rn]
  cases hu : s.ctx.userFn id with
  | none => exact congrArg (·, rnSt r s) (afterCall_rn r _ _ _ rfl)
  | some f =>
    exact congrArg (·, _) (afterCall_rn r _ _ _ ((renameRes_eq _ _).symm.trans (hF id f arg hu)))

theorem rn_assign {r : Str → Str} (hinj : Function.Injective r) {op : Operator}
    (ha : Operator.isAssignKind op = true) (x : Str) (v : Value) (s : St) :
    op.evalMut [.string (r x), v] (rnSt r s) = rnOut r (op.evalMut [.string x, v] s) := by
  rw [evalMut_of_assign op _ _ ha, evalMut_of_assign op _ _ ha]
  have store : ∀ w : Value,
      (match (rnSt r s).ctx.setValue (r x) w with
        | .error e => ((.error e : Res Value), rnSt r s)
        | .ok c => (.ok .empty, { rnSt r s with ctx := c })) =
      rnOut r (match s.ctx.setValue x w with
        | .error e => ((.error e : Res Value), s)
        | .ok c => (.ok .empty, { s with ctx := c })) := by
    intro w
    rw [setValue_rn hinj]
    cases hs : s.ctx.setValue x w with
    | error e => exact rnOut_clean ((plain_ctx_setValue _ _ _).clean.of_eq hs) s   -- refused alike
    | ok c => rfl
  simp only [assignArgs, Value.asString]
  cases hb : op.assignBase with
  | none => exact store v   -- `x = v`
  | some base =>            -- `x ∘= v`: reads `x`, applies `base`, stores
    rw [getValue_rn hinj]
    cases s.ctx.getValue x with
    | none => rfl            -- unknown variable `x`, renamed to `r x`
    | some left =>
      dsimp only
      cases he : base.evalPure [left, v] with
      | error e => exact rnOut_clean ((plain_evalPure (assignBase_isPure hb) _).clean.of_eq he) s
      | ok w => exact store w

theorem renameWith_variable_varRead (r : Str → Str) (x : Str) :
    (Operator.varRead x).renameWith .variable r = .varRead (r x) := rfl
theorem renameWith_variable_varWrite (r : Str → Str) (x : Str) :
    (Operator.varWrite x).renameWith .variable r = .varWrite (r x) := rfl
theorem renameWith_variable_fn (r : Str → Str) (x : Str) :
    (Operator.fn x).renameWith .variable r = .fn x := rfl

theorem renameWith_of_ident_none {op : Operator} (h : op.ident = none) (k : IterKind)
    (f : Str → Str) : op.renameWith k f = op := by
  cases op with
  | varWrite _ | varRead _ | fn _ => cases h
  | _ => rfl

theorem rn_op {r : Str → Str} (hinj : Function.Injective r) {s : St} (hF : FnStable r s.ctx)
    {op : Operator} (ha : Operator.isAssignKind op = false) (hw : ∀ x, op ≠ .varWrite x)
    (args : List Value) :
    (op.renameWith .variable r).evalMut args (rnSt r s) = rnOut r (op.evalMut args s) := by
  cases hp : Operator.isPure op with
  | true =>
    have hi : op.ident = none := by
      cases op with
      | varRead _ | fn _ => cases hp
      | varWrite x => exact absurd rfl (hw x)
      | _ => rfl
    have he := fun s =>
      (evalMut_of_not_assign op args s ha).trans (eval_pure hp args s)
    rw [renameWith_of_ident_none hi, he, he]
    exact rnOut_clean (plain_evalPure hp args).clean s
  | false =>
    cases op with
    | varRead x => exact rn_varRead hinj x args s
    | fn f =>
      rcases args with _ | ⟨a, _ | ⟨b, rest⟩⟩
      · rfl   -- no argument: wrong arity
      · exact rn_callFunction hF f a
      · rfl   -- more than one argument: wrong arity
    | _ => cases hp

def rnNode (k : IterKind) (f : Str → Str) (n : Node) : Node :=
  ⟨n.op.renameWith k f, renameList k f n.children⟩

theorem renameList_cons (k : IterKind) (f : Str → Str) (n : Node) (rest : List Node) :
    renameList k f (n :: rest) = rnNode k f n :: renameList k f rest := by
  cases n; rw [renameList]; rfl

theorem renameList_nil (k : IterKind) (f : Str → Str) : renameList k f [] = [] := by
  rw [renameList]

end Evalexpr.Spec

/- Proofs/AgreeSerde.lean — extracted tables equal the expected ones (see Spec/Tables.lean). -/
import EvalexprVerif.Generated.SerdeShape
import EvalexprVerif.Spec.Tables

namespace Evalexpr.Agree
open Evalexpr.Spec

theorem serdeShape_agree : Generated.serdeShape = Tables.serdeShape := rfl

end Evalexpr.Agree

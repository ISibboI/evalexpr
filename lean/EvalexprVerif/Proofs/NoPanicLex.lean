/-
Proofs/NoPanicLex.lean — what the two loops of the lexer guarantee of their results, whatever the
input: property C01 for the lexer (`tokenize` never produces `Err.panic`) and the bound "no more
tokens than characters". The character loop has no panic site; the only one is the slice
`tokens[cutoff..]` in `partialTokensToTokens`, and `tokenStep` only returns a cutoff that is covered
by the partial tokens it has looked at.
-/
import EvalexprVerif.Proofs.LexLoop

namespace Evalexpr.Spec
open Evalexpr

@[simp] theorem isPanic_ok {α} (a : α) : Res.isPanic (Except.ok a : Res α) = false := rfl
@[simp] theorem isPanic_error {α} (e : Err) : Res.isPanic (Except.error e : Res α) = e.isPanic := rfl

theorem isPanic_map {α β} (f : α → β) (r : Res α) : Res.isPanic (r.map f) = r.isPanic := by
  cases r <;> rfl

theorem isPanic_map' {α β} (f : α → β) (r : Res α) : Res.isPanic (f <$> r) = r.isPanic :=
  isPanic_map f r

theorem pushPartial_length (acc : List PartialToken) (p : PartialToken) :
    (pushPartial acc p).length ≤ acc.length + 1 := by
  unfold pushPartial
  split <;> simp

/-- what the character loop guarantees of its result: at most `n` partial tokens, or an error that
is not a panic -/
def LexPost (n : Nat) : Res (List PartialToken) → Prop
  | .ok ps => ps.length ≤ n
  | .error e => e.isPanic = false

theorem LexPost.mono {n m : Nat} {r : Res (List PartialToken)} (h : LexPost n r) (hnm : n ≤ m) :
    LexPost m r := by
  cases r with
  | ok ps => exact Nat.le_trans h hnm
  | error e => exact h

/-- at most one partial token per character, and no panic: one pass through the loop body (`lexNormal_cons`) goes on with
fewer characters and at most one partial token more, so the guarantee of the rest is passed on by `LexPost.mono` -/
theorem lex_post : ∀ (n : Nat) (cs : List Char) (acc : List PartialToken), cs.length ≤ n →
    LexPost (cs.length + acc.length) (lexNormal cs acc)
  | _, [], acc, _ => by rw [lexNormal_nil]; simp [LexPost]
  | n + 1, c :: cs, acc, h => by
    have ih := fun cs' acc' (h' : cs'.length ≤ cs.length) =>
      lex_post n cs' acc' (by simp only [List.length_cons] at h; omega)
    rw [lexNormal_cons]
    split
    -- `"`: a string literal is read (or is an error), then on with what is left behind it
    · have := stringLit_post cs []
      split <;> rename_i hs <;> rw [hs] at this
      · exact this
      · exact (ih _ _ (by omega)).mono (by simp only [List.length_cons]; omega)
    split
    -- `/`: a comment is skipped and leaves a whitespace (or is not closed: an error), or the slash is pushed
    · have := skipCommentSpec_post cs
      have hp := pushPartial_length acc .slash
      split <;> rename_i hs <;> rw [hs] at this
      · exact this
      · exact (ih _ _ this).mono (by simp only [List.length_cons]; omega)
      · exact (ih _ _ this).mono (by simp only [List.length_cons]; omega)
    -- any other character is pushed
    · have hp := pushPartial_length acc (charToPartialToken c)
      exact (ih _ _ (Nat.le_refl _)).mono (by simp only [List.length_cons]; omega)

theorem lexNormal_length (cs : List Char) (acc ps : List PartialToken)
    (h : lexNormal cs acc = .ok ps) : ps.length ≤ cs.length + acc.length := by
  have := lex_post _ cs acc (Nat.le_refl _)
  rwa [h] at this

/-- the cutoff is 1, or 2 with a second partial token, or 3 with a second and a third one. Every
leaf of `tokenStep` is a literal `.ok (_, k)` or an `.error`, so after splitting down to the leaves
the answer can be read off (the same in `tokenStep_noPanic`). -/
theorem tokenStep_cutoff (a : PartialToken) (s t : Option PartialToken) (tk : Option Token) (k : Nat)
    (h : tokenStep a s t = .ok (tk, k)) :
    k = 1 ∨ (k = 2 ∧ s ≠ none) ∨ (k = 3 ∧ s ≠ none ∧ t ≠ none) := by
  unfold tokenStep at h
  repeat' split at h
  -- an `.error` leaf contradicts `h`; at an `.ok` leaf `h` gives the token and `k`
  all_goals cases h
  -- `k = 1` | `k = 2`, where the second partial token was matched as `some _` | `k = 3`, where the
  -- second and the third were
  all_goals first | exact .inl rfl | exact .inr (.inl ⟨rfl, nofun⟩) | exact .inr (.inr ⟨rfl, nofun, nofun⟩)

theorem tokenStep_noPanic (a : PartialToken) (s t : Option PartialToken) (e : Err)
    (h : tokenStep a s t = .error e) : e.isPanic = false := by
  unfold tokenStep at h
  repeat' split at h
  -- an `.ok` leaf contradicts `h`; the only error is `unmatchedPartialToken`, no panic
  all_goals cases h
  all_goals rfl

/-- the loop of `partial_tokens_to_tokens` in one equation: `tokens = &tokens[cutoff..]`, which
never panics, since the cutoff is covered by the partial tokens `tokenStep` has looked at -/
theorem partialTokensToTokens_cons (a : PartialToken) (rest : List PartialToken) :
    partialTokensToTokens (a :: rest) =
      match tokenStep a rest[0]? rest[1]? with
      | .error e => .error e
      | .ok (t, k) => (partialTokensToTokens (rest.drop (k - 1))).map (t.toList ++ ·) := by
  have nil : ∀ t : Option Token,
      (partialTokensToTokens []).map (t.toList ++ ·) = .ok t.toList := fun t => by
    simp [partialTokensToTokens, Except.map]
  rcases rest with _ | ⟨b, _ | ⟨c, rest⟩⟩ <;> rw [partialTokensToTokens]
  -- `[a]`: the cutoff can only be 1
  · simp only [List.getElem?_nil]
    cases hs : tokenStep a none none with
    | error e => rfl
    | ok p =>
      obtain ⟨t, k⟩ := p
      rcases tokenStep_cutoff _ _ _ _ _ hs with rfl | ⟨-, h⟩ | ⟨-, h, -⟩
      · simp [nil]
      all_goals exact absurd rfl h
  -- `[a, b]`: the cutoff is 1 or 2
  · simp only [List.getElem?_cons_zero, List.getElem?_cons_succ, List.getElem?_nil]
    cases hs : tokenStep a (some b) none with
    | error e => rfl
    | ok p =>
      obtain ⟨t, k⟩ := p
      rcases tokenStep_cutoff _ _ _ _ _ hs with rfl | ⟨rfl, -⟩ | ⟨-, -, h⟩
      · simp
      · simp [nil]
      · exact absurd rfl h
  -- `a :: b :: c :: rest`: the cutoff is 1, 2 or 3
  · simp only [List.getElem?_cons_zero, List.getElem?_cons_succ]
    cases hs : tokenStep a (some b) (some c) with
    | error e => rfl
    | ok p =>
      obtain ⟨t, k⟩ := p
      rcases tokenStep_cutoff _ _ _ _ _ hs with rfl | ⟨rfl, -⟩ | ⟨rfl, -, -⟩ <;> simp

theorem pttt_noPanic : ∀ ps : List PartialToken, (partialTokensToTokens ps).isPanic = false
  | [] => rfl
  | a :: rest => by
    rw [partialTokensToTokens_cons]
    split
    · exact tokenStep_noPanic _ _ _ _ ‹_›
    · rw [isPanic_map]
      exact pttt_noPanic _
termination_by ps => ps.length
decreasing_by simp only [List.length_drop, List.length_cons]; omega

/-- phase 2: every step drops at least one partial token and emits at most one token -/
theorem pttt_length : ∀ (ps : List PartialToken) (ts : List Token),
    partialTokensToTokens ps = .ok ts → ts.length ≤ ps.length
  | [], ts, h => by rw [partialTokensToTokens] at h; cases h; simp
  | a :: rest, ts, h => by
    rw [partialTokensToTokens_cons] at h
    split at h
    · cases h
    · rename_i t k _
      cases hr : partialTokensToTokens (rest.drop (k - 1)) with
      | error e => rw [hr] at h; cases h
      | ok x =>
        rw [hr] at h; cases h
        have := pttt_length _ x hr
        have : t.toList.length ≤ 1 := by cases t <;> simp
        simp only [List.length_drop, List.length_cons, List.length_append] at *; omega
termination_by ps => ps.length
decreasing_by simp only [List.length_drop, List.length_cons]; omega

theorem tokenize_noPanic (s : List Char) : (tokenize s).isPanic = false := by
  unfold tokenize strToPartialTokens
  have h := lex_post _ s [] (Nat.le_refl _)
  cases hl : lexNormal s [] with
  | error e => rw [hl] at h; exact h
  | ok ps => exact pttt_noPanic ps

/-- tokens are never more numerous than characters, so the recursion-depth bound also holds in terms of the input string -/
theorem tokenize_length (s : List Char) (ts : List Token) (h : tokenize s = .ok ts) :
    ts.length ≤ s.length := by
  unfold tokenize strToPartialTokens at h
  cases hl : lexNormal s [] with
  | error e => rw [hl] at h; cases h
  | ok ps =>
    rw [hl] at h
    have h1 := lexNormal_length s [] ps hl
    have h2 := pttt_length ps ts h
    simp only [List.length_nil] at h1; omega

end Evalexpr.Spec

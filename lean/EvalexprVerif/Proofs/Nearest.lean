/-
Proofs/Nearest.lean — `F64.roundRat` returns a nearest double (ties to even), and +infinity exactly
at or beyond the overflow threshold (Spec/Nearest.lean).

`roundRat n d` searches an exponent `e`, rounds the quotient of the pair scaled to `e` half-even and
packs the result. The search only ever looks at that quotient, `quot n d e = ⌊n / (d · 2^e)⌋`, and
one exponent up halves it (`quot_succ`): two corrections of the estimate bring it to 53 bits, the
clamp to `−1074` can only shorten it. From `−1074` on the scaled pair is `(n · 2^1074, d · 2^E)` up
to a common factor (`scaledP_common`), which half-even rounding does not see
(`roundHE_mul_right`); so `NearestArith.nearest_grid` speaks of n/d itself. The packing is
`NearestBits.pack_cases`.
-/
import EvalexprVerif.Proofs.NearestBits
import Mathlib.Tactic.Ring
import Mathlib.Tactic.Positivity

namespace Evalexpr.Spec.Nearest
open Evalexpr

/-- `scaled` inside `roundRat` -/
def scaledP (n d : Nat) (e2 : Int) : Nat × Nat :=
  if e2 ≥ 0 then (n, d * 2 ^ e2.toNat) else (n * 2 ^ (-e2).toNat, d)

/-- the quotient `roundRat` looks at, at exponent `e2`: `⌊n / (d · 2^e2)⌋` -/
def quot (n d : Nat) (e2 : Int) : Nat := (scaledP n d e2).1 / (scaledP n d e2).2

/-- `fix` inside `roundRat` -/
def fixE (n d : Nat) (e2 : Int) : Int :=
  if quot n d e2 < 2 ^ 52 then e2 - 1 else if quot n d e2 ≥ 2 ^ 53 then e2 + 1 else e2

/-- the initial exponent estimate -/
def estE (n d : Nat) : Int := (n.log2 : Int) - (d.log2 : Int) - 52

/-- the final (clamped) exponent -/
def finalE (n d : Nat) : Int :=
  if fixE n d (fixE n d (estE n d)) < -1074 then -1074 else fixE n d (fixE n d (estE n d))

/-- the tail of `roundRat`: a significand rounded up to `2^53` is renormalised, then packed -/
def finish (q : Nat) (e2 : Int) : UInt64 :=
  let (q, e2) := if q ≥ 2 ^ 53 then (q / 2, e2 + 1) else (q, e2)
  pack q e2

theorem roundRat_eq (n d : Nat) (hn : n ≠ 0) :
    F64.roundRat n d =
      finish (roundHE (scaledP n d (finalE n d)).1 (scaledP n d (finalE n d)).2) (finalE n d) := by
  unfold F64.roundRat
  rw [if_neg (by simpa using hn)]
  -- each local definition is the top-level piece by `rfl`; one `rfl` for the whole body is five
  -- times dearer
  extract_lets est scaled fix e2 e2c
  have hs : scaled = scaledP n d := rfl
  have hf : fix = fixE n d := rfl
  have he : e2c = finalE n d := by simp only [e2c, e2, hf, est]; rfl
  rw [hs, he]
  rfl

theorem scaledP_eq (n d : Nat) (e : Int) :
    scaledP n d e = (n * 2 ^ (-e).toNat, d * 2 ^ e.toNat) := by
  unfold scaledP
  split
  · rw [show (-e).toNat = 0 by omega, Nat.pow_zero, Nat.mul_one]
  · rw [show e.toNat = 0 by omega, Nat.pow_zero, Nat.mul_one]

theorem scaledP_snd_pos (n d : Nat) (hd : 0 < d) (e : Int) : 0 < (scaledP n d e).2 := by
  rw [scaledP_eq]; positivity

/-- one exponent up halves the quotient -/
theorem quot_succ (n d : Nat) (e : Int) : quot n d (e + 1) = quot n d e / 2 := by
  unfold quot
  rw [scaledP_eq, scaledP_eq, Nat.div_div_eq_div_mul]
  by_cases h : 0 ≤ e
  · rw [show (-(e + 1)).toNat = 0 by omega, show (-e).toNat = 0 by omega,
      show (e + 1).toNat = e.toNat + 1 by omega, Nat.pow_succ, Nat.mul_assoc]
  · rw [show (e + 1).toNat = 0 by omega, show e.toNat = 0 by omega,
      show (-e).toNat = (-(e + 1)).toNat + 1 by omega, Nat.pow_succ, ← Nat.mul_assoc,
      Nat.mul_div_mul_right _ _ (by decide)]

theorem quot_add (n d : Nat) (e : Int) (t : Nat) : quot n d (e + t) = quot n d e / 2 ^ t := by
  induction t with
  | zero => simp
  | succ t ih =>
    rw [show e + ((t + 1 : Nat) : Int) = e + t + 1 by omega, quot_succ, ih, Nat.div_div_eq_div_mul,
      Nat.pow_succ]

theorem le_quot_iff (n d c : Nat) (hd : 0 < d) (e : Int) :
    c ≤ quot n d e ↔ c * (d * 2 ^ e.toNat) ≤ n * 2 ^ (-e).toNat := by
  unfold quot
  rw [Nat.le_div_iff_mul_le (scaledP_snd_pos n d hd e), scaledP_eq]

theorem pow_mul_le {x y i j p q : Nat} (hx : x ≤ 2 ^ p) (hy : 2 ^ q ≤ y) (h : p + i ≤ q + j) :
    x * 2 ^ i ≤ y * 2 ^ j :=
  calc x * 2 ^ i ≤ 2 ^ p * 2 ^ i := Nat.mul_le_mul_right _ hx
    _ = 2 ^ (p + i) := (Nat.pow_add ..).symm
    _ ≤ 2 ^ (q + j) := Nat.pow_le_pow_right (by decide) h
    _ = 2 ^ q * 2 ^ j := Nat.pow_add ..
    _ ≤ y * 2 ^ j := Nat.mul_le_mul_right _ hy

/-- at the initial estimate the quotient lies in `[2^51, 2^53)` -/
theorem est_bounds (n d : Nat) (hn : 0 < n) (hd : 0 < d) :
    2 ^ 51 ≤ quot n d (estE n d) ∧ quot n d (estE n d) < 2 ^ 53 := by
  have hn1 : 2 ^ n.log2 ≤ n := Nat.log2_self_le (by omega)
  have hn2 : n < 2 ^ (n.log2 + 1) := Nat.lt_log2_self
  have hd1 : 2 ^ d.log2 ≤ d := Nat.log2_self_le (by omega)
  have hd2 : d < 2 ^ (d.log2 + 1) := Nat.lt_log2_self
  rw [← Nat.not_le, le_quot_iff n d _ hd, le_quot_iff n d _ hd]
  unfold estE
  constructor
  · rw [← Nat.mul_assoc]
    refine pow_mul_le (p := 51 + (d.log2 + 1)) ?_ hn1 (by omega)
    rw [Nat.pow_add]; exact Nat.mul_le_mul_left _ (Nat.le_of_lt hd2)
  · rw [Nat.not_le, ← Nat.mul_assoc]
    refine Nat.lt_of_lt_of_le (Nat.mul_lt_mul_of_pos_right hn2 (Nat.pow_pos (by decide)))
      (pow_mul_le (q := 53 + d.log2) (Nat.le_refl _) ?_ (by omega))
    rw [Nat.pow_add]; exact Nat.mul_le_mul_left _ hd1

/-- a quotient in `[2^51, 2^53)` is moved into `[2^52, 2^53)`, one already there stays -/
theorem fixE_spec (n d : Nat) (e : Int) (h1 : 2 ^ 51 ≤ quot n d e) (h2 : quot n d e < 2 ^ 53) :
    2 ^ 52 ≤ quot n d (fixE n d e) ∧ quot n d (fixE n d e) < 2 ^ 53 := by
  have h := quot_succ n d (e - 1)
  rw [Int.sub_add_cancel] at h
  unfold fixE
  split
  · -- below `2^52`: one exponent down the quotient is twice as large, or that plus one
    omega
  · -- 53 bits already: `e` stays
    rw [if_neg (by omega)]; omega

/-- the clamp to `−1074` can only raise the exponent, so the quotient stays below `2^53` -/
theorem finalE_spec (n d : Nat) (hn : 0 < n) (hd : 0 < d) :
    -1074 ≤ finalE n d ∧ quot n d (finalE n d) < 2 ^ 53 ∧
      (2 ^ 52 ≤ quot n d (finalE n d) ∨ finalE n d = -1074) := by
  obtain ⟨h1, h2⟩ := est_bounds n d hn hd
  obtain ⟨h1, h2⟩ := fixE_spec n d _ h1 h2
  obtain ⟨h1, h2⟩ := fixE_spec n d _ (by omega) h2
  unfold finalE
  split
  · -- clamped: `−1074` lies `t` above the exponent found, the quotient there is `⌊_ / 2^t⌋`
    refine ⟨Int.le_refl _, ?_, Or.inr rfl⟩
    generalize fixE n d (fixE n d (estE n d)) = e at *
    rw [show (-1074 : Int) = e + ((-1074 - e).toNat : Nat) by omega, quot_add]
    exact Nat.lt_of_le_of_lt (Nat.div_le_self ..) h2
  · -- not clamped: the exponent found, with its 53-bit quotient
    exact ⟨by omega, h2, Or.inl h1⟩

/-- from `−1074` on the scaled pair is `(n·2^1074, d·2^E)` with a common factor taken out
(`P1074 = 2^1074`) -/
theorem scaledP_common (n d : Nat) (e : Int) (he : -1074 ≤ e) :
    ∃ c, 0 < c ∧ n * P1074 = (scaledP n d e).1 * c ∧
      d * 2 ^ (e + 1074).toNat = (scaledP n d e).2 * c := by
  rw [scaledP_eq]
  dsimp only
  -- the pair is `(n·2^k, d·2^j)` with `k = max (−e) 0 ≤ 1074` and `j = max e 0`; the common
  -- factor is `2^(1074−k)`
  refine ⟨2 ^ (1074 - (-e).toNat), Nat.pow_pos (by decide), ?_, ?_⟩
  · rw [Nat.mul_assoc, ← P1074_split _ _ (by omega)]
  · rw [Nat.mul_assoc, ← Nat.pow_add,
      show e.toNat + (1074 - (-e).toNat) = (e + 1074).toNat by omega]

/-- the condition under which the result is +infinity: rounded significand `q` at exponent
`E − 1074` -/
def InfCond (q E : Nat) : Prop :=
  2 ^ 52 ≤ q ∧ ((q < 2 ^ 53 ∧ 2046 ≤ E) ∨ (q = 2 ^ 53 ∧ 2045 ≤ E))

theorem finish_cases (q : Nat) (e : Int) (E : Nat) (he : e = (E : Int) - 1074)
    (hq : q ≤ 2 ^ 53) (hge : 2 ^ 52 ≤ q ∨ E = 0) :
    (InfCond q E ∧ finish q e = 0x7ff0000000000000) ∨
    (¬ InfCond q E ∧ isFinitePos (finish q e) = true ∧ scaledValue (finish q e) = q * 2 ^ E ∧
      fracField (finish q e) % 2 = q % 2) := by
  unfold finish
  rcases Nat.lt_or_eq_of_le hq with h53 | rfl
  · -- below `2^53`: packed as it is
    have hi : InfCond q E ↔ 2 ^ 52 ≤ q ∧ 2046 ≤ E := by unfold InfCond; omega
    rw [if_neg (Nat.not_le.2 h53), hi]
    exact pack_cases q e E he h53 hge
  · -- rounded up to `2^53`: the significand `2^52` one exponent higher
    have hi : InfCond (2 ^ 53) E ↔ 2 ^ 52 ≤ 2 ^ 53 / 2 ∧ 2046 ≤ E + 1 := by unfold InfCond; omega
    have hv : 2 ^ 53 / 2 * 2 ^ (E + 1) = 2 ^ 53 * 2 ^ E := by
      rw [Nat.pow_succ (m := E)]; generalize 2 ^ E = P; omega
    rw [if_pos (Nat.le_refl _), hi]
    exact (pack_cases (2 ^ 53 / 2) (e + 1) (E + 1) (by omega) (by decide) (Or.inl (by decide))).imp_right
      fun ⟨h, f1, f2, f3⟩ => ⟨h, f1, f2.trans hv, f3.trans (by decide)⟩

/-- Everything the final theorems need to know about `roundRat n d`. With `E` the final exponent
counted from `−1074`, `a = n·2^1074` and `b = d·2^E`: `a / b` has at most 53 bits; it has 53 bits
unless the exponent is the smallest; and the result is +infinity or the finite double of scaled value
`roundHE a b · 2^E` whose last fraction bit is the parity of `roundHE a b`. -/
theorem roundRat_core (n d : Nat) (hn : 0 < n) (hd : 0 < d) :
    ∃ a b E : Nat, a = n * P1074 ∧ b = d * 2 ^ E ∧ a / b < 2 ^ 53 ∧ (2 ^ 52 ≤ a / b ∨ E = 0) ∧
      ((InfCond (roundHE a b) E ∧ F64.roundRat n d = 0x7ff0000000000000) ∨
       (¬ InfCond (roundHE a b) E ∧ isFinitePos (F64.roundRat n d) = true ∧
        scaledValue (F64.roundRat n d) = roundHE a b * 2 ^ E ∧
        fracField (F64.roundRat n d) % 2 = roundHE a b % 2)) := by
  obtain ⟨hge, hlt, hor⟩ := finalE_spec n d hn hd
  obtain ⟨c, hc, ha, hb⟩ := scaledP_common n d _ hge
  -- `a / b` is the quotient the search ended on
  have hq : n * P1074 / (d * 2 ^ (finalE n d + 1074).toNat) = quot n d (finalE n d) := by
    rw [ha, hb, Nat.mul_div_mul_right _ _ hc]; rfl
  have hor : 2 ^ 52 ≤ quot n d (finalE n d) ∨ (finalE n d + 1074).toNat = 0 :=
    hor.imp_right fun h => by rw [h]; rfl
  refine ⟨_, _, _, rfl, rfl, hq ▸ hlt, hq ▸ hor, ?_⟩
  -- `roundHE a b` is the significand `roundRat` rounds to; it lies between `a / b` and `a / b + 1`,
  -- so `finish_cases` applies
  rw [roundRat_eq n d (by omega), ha, hb, roundHE_mul_right _ _ _ hc]
  have h1 := roundHE_le (scaledP n d (finalE n d)).1 (scaledP n d (finalE n d)).2
  have h2 := roundHE_ge (scaledP n d (finalE n d)).1 (scaledP n d (finalE n d)).2
  unfold quot at hlt hor
  exact finish_cases _ _ _ (by omega) (by omega) (hor.imp_left (by omega))

/-- the result is +infinity exactly from the midpoint between the largest finite double and
`2^1024` on, in terms of the scaled pair -/
theorem infCond_iff (a b E : Nat) (hb : 0 < b) (hlt : a / b < 2 ^ 53)
    (hge : 2 ^ 52 ≤ a / b ∨ E = 0) :
    InfCond (roundHE a b) E ↔ (2 ^ 54 - 1) * Y2044 * b ≤ a * 2 ^ E := by
  -- of `Y = 2^2044` only its relation to `2^E` is used
  obtain ⟨hY, hlo, htop, hhi⟩ := Y2044_facts E
  generalize Y2044 = Y at *
  have h1 := roundHE_le a b
  have h2 := roundHE_ge a b
  unfold InfCond
  rcases Nat.lt_trichotomy E 2045 with hE | hE | hE
  · -- `E ≤ 2044`: both sides fail, the value stays below `2^53 · 2^2044`
    refine iff_of_false (by omega) (Nat.not_le.2 ?_)
    calc a * 2 ^ E ≤ a * Y := Nat.mul_le_mul_left _ (hlo (by omega))
      _ < 2 ^ 53 * b * Y := Nat.mul_lt_mul_of_pos_right ((Nat.div_lt_iff_lt_mul hb).1 hlt) hY
      _ = 2 ^ 53 * Y * b := Nat.mul_right_comm ..
      _ ≤ (2 ^ 54 - 1) * Y * b := Nat.mul_le_mul_right _ (Nat.mul_le_mul_right _ (by omega))
  · -- `E = 2045`, the top binade: +infinity exactly if the quotient rounds up to `2^53`
    rw [htop hE, Nat.mul_right_comm _ Y b, show a * (Y * 2) = 2 * a * Y by ring,
      Nat.mul_le_mul_right_iff hY, ← roundHE_top a b hb hlt]
    omega
  · -- `E ≥ 2046`: both sides hold, the value is at least `2^52 · 2^2046`
    have hq : 2 ^ 52 ≤ a / b := by omega
    refine iff_of_true (by omega) ?_
    calc (2 ^ 54 - 1) * Y * b ≤ 2 ^ 54 * Y * b :=
          Nat.mul_le_mul_right _ (Nat.mul_le_mul_right _ (by omega))
      _ = 2 ^ 52 * b * (Y * 4) := by ring
      _ ≤ a * 2 ^ E := Nat.mul_le_mul ((Nat.le_div_iff_mul_le hb).1 hq) (hhi hE)

theorem overflows_iff (n d a b E : Nat) (ha : a = n * P1074) (hb : b = d * 2 ^ E) :
    overflows n d = true ↔ (2 ^ 54 - 1) * Y2044 * b ≤ a * 2 ^ E := by
  rw [overflows_iff_const, ha, hb, ← Nat.mul_assoc, Nat.mul_le_mul_right_iff (Nat.pow_pos (by decide))]

end Evalexpr.Spec.Nearest

namespace Evalexpr.Spec
open Evalexpr.Spec.Nearest

/-- no finite non-negative double is strictly closer to n/d than the one `roundRat` returns (the
inequality holds for every bit pattern `y`, finite or not) -/
theorem roundRat_nearest (n d : Nat) (hn : 0 < n) (hd : 0 < d)
    (hfin : isFinitePos (F64.roundRat n d) = true) (y : UInt64) (_hy : isFinitePos y = true) :
    scaledError n d (F64.roundRat n d) ≤ scaledError n d y := by
  obtain ⟨a, b, E, ha, hb, hlt, hge, hres⟩ := roundRat_core n d hn hd
  rcases hres with ⟨_, hinf⟩ | ⟨_, _, hval, _⟩
  · rw [hinf] at hfin; exact absurd hfin (by decide)
  · rw [scaledError_eq, scaledError_eq, hval, ← ha]
    exact (nearest_grid a b d E _ _ hb hd hge (scaledValue_grid y E)).1

/-- ties are broken towards the even significand -/
theorem roundRat_ties_even (n d : Nat) (hn : 0 < n) (hd : 0 < d)
    (hfin : isFinitePos (F64.roundRat n d) = true) (y : UInt64) (hy : isFinitePos y = true)
    (hne : y ≠ F64.roundRat n d) (htie : scaledError n d y = scaledError n d (F64.roundRat n d)) :
    fracField (F64.roundRat n d) % 2 = 0 := by
  obtain ⟨a, b, E, ha, hb, hlt, hge, hres⟩ := roundRat_core n d hn hd
  rcases hres with ⟨_, hinf⟩ | ⟨_, _, hval, hpar⟩
  · rw [hinf] at hfin; exact absurd hfin (by decide)
  · rw [scaledError_eq, scaledError_eq, hval, ← ha] at htie
    rw [hpar]
    exact (nearest_grid a b d E _ _ hb hd hge (scaledValue_grid y E)).2
      (fun h => hne (scaledValue_inj y _ hy hfin (h.trans hval.symm))) htie

/-- the result is +infinity exactly when n/d is at or beyond the overflow threshold; otherwise it
is finite -/
theorem roundRat_overflow (n d : Nat) (hn : 0 < n) (hd : 0 < d) :
    (F64.roundRat n d = 0x7ff0000000000000 ↔ overflows n d = true) ∧
    (overflows n d = false → isFinitePos (F64.roundRat n d) = true) := by
  obtain ⟨a, b, E, ha, hb, hlt, hge, hres⟩ := roundRat_core n d hn hd
  have hb0 : 0 < b := hb ▸ Nat.mul_pos hd (Nat.pow_pos (by decide))
  have hiff := (infCond_iff a b E hb0 hlt hge).trans (overflows_iff n d a b E ha hb).symm
  rcases hres with ⟨hc, hinf⟩ | ⟨hc, hfin, _, _⟩
  · have hov := hiff.1 hc
    refine ⟨⟨fun _ => hov, fun _ => hinf⟩, ?_⟩
    intro h; rw [hov] at h; exact absurd h (by decide)
  · refine ⟨⟨?_, ?_⟩, fun _ => hfin⟩
    · intro h; rw [h] at hfin; exact absurd hfin (by decide)
    · intro h; exact absurd (hiff.2 h) hc

end Evalexpr.Spec

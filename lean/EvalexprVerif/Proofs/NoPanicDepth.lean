/-
Proofs/NoPanicDepth.lean — the depth of the operator tree is bounded by the number of tokens:
every token adds at most one level to the tree, a separator (`,` `;`) at most two (the sequence
node and the parenthesis node around its items).
The potential is the sum over the levels of the root stack of the depth of the folded level.
-/
import EvalexprVerif.Proofs.TreeLevels

namespace Evalexpr.Spec
open Evalexpr

mutual
def Node.depth : Node → Nat
  | ⟨_, cs⟩ => 1 + Node.depthList cs
def Node.depthList : List Node → Nat
  | [] => 0
  | c :: cs => max (Node.depth c) (Node.depthList cs)
end

theorem depth_mk (op : Operator) (cs : List Node) :
    Node.depth ⟨op, cs⟩ = 1 + Node.depthList cs := by rw [Node.depth]

theorem depth_eq (n : Node) : Node.depth n = 1 + Node.depthList n.children := by
  cases n; rw [depth_mk]

@[simp] theorem depthList_nil : Node.depthList [] = 0 := by rw [Node.depthList]
@[simp] theorem depthList_cons (c : Node) (cs : List Node) :
    Node.depthList (c :: cs) = max (Node.depth c) (Node.depthList cs) := by rw [Node.depthList]

@[simp] theorem depthList_append (a b : List Node) :
    Node.depthList (a ++ b) = max (Node.depthList a) (Node.depthList b) := by
  induction a with
  | nil => simp
  | cons x a ih => simp only [List.cons_append, depthList_cons, ih, Nat.max_assoc]

theorem depth_pos (n : Node) : 1 ≤ Node.depth n := by rw [depth_eq]; omega

theorem depth_new (op : Operator) : Node.depth (.new op) = 1 := by
  rw [Node.new, depth_mk]; rfl

theorem rootNode_depth : Node.depth Node.rootNode = 1 := depth_new _

theorem depth_snoc_le (op : Operator) (pre : List Node) {y y' : Node} {d : Nat}
    (h : Node.depth y' ≤ Node.depth y + d) :
    Node.depth ⟨op, pre ++ [y']⟩ ≤ Node.depth ⟨op, pre ++ [y]⟩ + d := by
  simp only [depth_mk, depthList_append, depthList_cons, depthList_nil]; omega

theorem Ins.depth_le {node n n' : Node} (h : Ins node n n') :
    Node.depth n' ≤ Node.depth n + Node.depth node := by
  induction h with
  | app op cs => simp only [depth_mk, depthList_append, depthList_cons, depthList_nil]; omega
  | down op pre _ ih => exact depth_snoc_le op pre ih
  | rot op pre c =>
    refine depth_snoc_le op pre ?_
    rw [depth_eq node]
    simp only [depth_mk, depthList_append, depthList_cons, depthList_nil]; omega

theorem depth_pair (op : Operator) (y : Node) :
    Node.depth ⟨op, [y, Node.rootNode]⟩ ≤ Node.depth y + 2 := by
  simp only [depth_mk, depthList_cons, depthList_nil, rootNode_depth]; omega

theorem depth_snoc_root (X : Node) :
    Node.depth ⟨X.op, X.children ++ [Node.rootNode]⟩ ≤ Node.depth X + 2 := by
  rw [depth_eq X]
  simp only [depth_mk, depthList_append, depthList_cons, depthList_nil, rootNode_depth]; omega

/-- what an insertion or a separator adds to the item, it adds at most to the folded level -/
theorem close_depth_le (gs : List Frame) {x x' : Node} {d : Nat}
    (h : Node.depth x' ≤ Node.depth x + d) :
    Node.depth (close gs x') ≤ Node.depth (close gs x) + d := by
  induction gs generalizing x x' with
  | nil => exact h
  | cons g gs ih => exact ih (depth_snoc_le g.op g.left h)

def stackDepth : List Lvl → Nat
  | [] => 0
  | L :: ls => Node.depth L.collapse + stackDepth ls

/-- the item (`,`) or the member (`;`) moves under a sequence node and an empty item follows it:
in the open sequence, or in a new one, which before the first separator stands in a fresh
parenthesis node -/
theorem Lvl.sep_depth (semi : Bool) (L : Lvl) :
    Node.depth (L.sep semi).collapse ≤ Node.depth L.collapse + 2 := by
  have hfirst : ∀ op,
      Node.depth (close [R] ⟨op, [L.item, Node.rootNode]⟩) ≤ Node.depth L.item + 2 := by
    intro op
    have := depth_pos L.item
    simp only [close, Frame.fill, R, List.nil_append, depth_mk, depthList_cons, depthList_nil,
      rootNode_depth]
    omega
  obtain ⟨⟨_ | t, _ | c⟩, cs⟩ := L <;> cases semi
  -- `,` before any separator
  · exact hfirst _
  -- `;` before any separator
  · exact hfirst _
  -- `,` on an open chain: a new tuple over the item
  · exact close_depth_le [⟨.chain, c⟩, R] (depth_pair .tuple _)
  -- `;` on an open chain: one more member
  · exact close_depth_le [R] (depth_snoc_root ⟨.chain, c ++ [_]⟩)
  -- `,` on an open tuple: one more element
  · exact close_depth_le [R] (depth_snoc_root ⟨.tuple, t ++ [_]⟩)
  -- `;` on an open tuple: a new chain over it
  · exact close_depth_le [R] (depth_pair .chain _)
  -- `,` on a tuple in a chain: one more element
  · exact close_depth_le [⟨.chain, c⟩, R] (depth_snoc_root ⟨.tuple, t ++ [_]⟩)
  -- `;` on a tuple in a chain: the tuple is one more member
  · exact close_depth_le [R] (depth_snoc_root ⟨.chain, c ++ [_]⟩)

theorem step_stackDepth {lr : Bool} {next : Option Token} {t : Token} {lv lv' : List Lvl}
    (h : LvStep lr next t lv lv') :
    stackDepth lv' ≤ stackDepth lv + 1 + (if isSepTok t then 1 else 0) := by
  cases h with
  | opened =>
    simp only [stackDepth, Lvl.collapse, Lvl.fresh, Ctx.frames, close, Lvl.item, depth_mk,
      depthList_nil]
    omega
  | plain L ls h1 h2 h3 hins =>
    have hx := hins.depth_le
    rw [depth_new] at hx
    have := close_depth_le L.ctx.frames hx
    simp only [stackDepth, Lvl.collapse, Lvl.item] at this ⊢; omega
  | sep b L ls =>
    have := L.sep_depth b
    simp only [stackDepth, show isSepTok (sepTok b) = true by cases b <;> rfl, if_true]; omega
  | closed L L2 ls hins =>
    have := close_depth_le L2.ctx.frames hins.depth_le
    simp only [stackDepth, Lvl.collapse, Lvl.item] at this ⊢; omega

theorem depth_le_tokens (ts : List Token) (t : Node) (h : tokensToOperatorTree ts = .ok t) :
    Node.depth t ≤ ts.length + ts.countP isSepTok + 1 := by
  have hb := build_lvl
    (I := fun _ ts' lv => stackDepth lv + (ts'.length + ts'.countP isSepTok) ≤ 1 + (ts.length + ts.countP isSepTok))
    (fun _ t _ _ _ hI _ hs => by
      have := step_stackDepth hs
      simp only [List.length_cons, List.countP_cons] at hI
      omega) ts
    (by
      simp only [stackDepth, Lvl.collapse, Lvl.fresh, Ctx.frames, close, Lvl.item, depth_mk,
        depthList_nil]
      omega)
  rw [h] at hb
  obtain ⟨_, L, hI, rfl⟩ := hb
  simp only [stackDepth, List.length_nil, List.countP_nil] at hI
  omega

end Evalexpr.Spec

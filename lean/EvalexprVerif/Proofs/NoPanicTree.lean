/-
Proofs/NoPanicTree.lean — property C01 for the tree builder: the three panic sites of
src/tree/mod.rs (`children.last().unwrap()` in `insert_back_prioritized`, the two `unreachable!()`
of the token loop) are never reached, for ANY token sequence: every error of the builder is one of
the five that Proofs/TreeLevels.lean lists (`build_lvl`).
-/
import EvalexprVerif.Proofs.TreeLevels
import EvalexprVerif.Proofs.NoPanicLex

namespace Evalexpr.Spec
open Evalexpr

theorem InsErr.noPanic {e : Err} (h : InsErr e) : e.isPanic = false := by
  rcases h with rfl | rfl | rfl <;> rfl

theorem build_noPanic (ts : List Token) : (tokensToOperatorTree ts).isPanic = false := by
  have h := build_lvl (I := fun _ _ _ => True) (fun _ _ _ _ _ _ _ _ => trivial) ts trivial
  cases hr : tokensToOperatorTree ts with
  | ok t => rfl
  | error e =>
    rw [hr] at h
    rcases h with ⟨_, _, _, _, _, h | ⟨rfl, _⟩⟩ | ⟨_, _, _, rfl | ⟨rfl, _⟩⟩
    · exact h.noPanic
    all_goals rfl

theorem buildString_noPanic (s : List Char) : (buildOperatorTree s).isPanic = false := by
  unfold buildOperatorTree
  have h := tokenize_noPanic s
  cases ht : tokenize s with
  | error e => rw [ht] at h; exact h
  | ok ts => exact build_noPanic ts

end Evalexpr.Spec

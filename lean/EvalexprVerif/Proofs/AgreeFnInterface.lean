/-
Proofs/AgreeFnInterface.lean — the string-level entry points of src/interface/mod.rs as translated on this
run (`Generated/FnInterface.lean`) equal the Model's `runString` (`Model/Interface.lean`), for all
source strings and states. `token::tokenize` is a TRANSLATED callee too (`Gen.tokenize`, fuel-indexed; called with the fuel
`Rs.fuel_chars string`, replaced by the Model's `tokenize` with `fn_tokenize_fuel_chars`);
`tree::tokens_to_operator_tree` is a TRANSLATED callee (`Gen.tokens_to_operator_tree`, `Option`-valued: it contains
loops), called through `Rs.converged`, and replaced by the Model's `tokensToOperatorTree` with
`fn_tokens_to_operator_tree_agree` (Proofs/AgreeFnTokensToTree.lean); `build_operator_tree` itself is translated.
Typed results are compared through the embedding of the payload into `Value` (see AgreeFnTree).
-/
import EvalexprVerif.Generated.FnInterface
import EvalexprVerif.Translate.Lemmas
import EvalexprVerif.Proofs.AgreeFnTree
import EvalexprVerif.Proofs.AgreeFnTokensToTree
import EvalexprVerif.Proofs.AgreeFnLexer
import EvalexprVerif.Model.Interface

namespace Evalexpr.AgreeFn
open Evalexpr

/-- the interface functions call the fuel-indexed `Gen.tokenize` with `Rs.fuel_chars string` = length + 1 (table `FUEL_CALLS`): by
`fn_tokenize_agree` that fuel suffices, the call is the Model's `tokenize` -/
theorem fn_tokenize_fuel_chars (s : Str) : Gen.tokenize (Rs.fuel_chars s) s = tokenize s :=
  fn_tokenize_agree s _ (Nat.lt_succ_self _)

theorem fn_build_operator_tree_agree (src : Str) : Gen.build_operator_tree src = buildOperatorTree src := by
  simp only [Gen.build_operator_tree, buildOperatorTree, fn_tokens_to_operator_tree_agree, Rs.converged_some, fn_tokenize_fuel_chars]
  generalize tokenize src = t
  rcases t with _ | ts <;> eq_refl

theorem project_value (r : Res Value) : Kind.value.project r = r := by
  rcases r with _ | v
  · rfl
  · cases v <;> eq_refl

attribute [rs_agree] fn_tokenize_fuel_chars fn_tokens_to_operator_tree_agree fn_build_operator_tree_agree

theorem fn_eval_with_context_agree (src : Str) (s : St) :
    Gen.eval_with_context src s = runString .value .ro src s := by
  simp only [Gen.eval_with_context, runString, buildOperatorTree, runTree, runTreeUntyped, project_value, rs_agree, rs_exec]
  -- the lexer fails; else the tree builder fails or yields the tree that is evaluated
  cases tokenize src <;> try rfl
  dsimp only
  cases tokensToOperatorTree _ <;> eq_refl
theorem fn_eval_with_context_mut_agree (src : Str) (s : St) :
    Gen.eval_with_context_mut src s = runString .value .mut_ src s := by
  simp only [Gen.eval_with_context_mut, runString, buildOperatorTree, runTree, runTreeUntyped, project_value, rs_agree, rs_exec]
  -- the lexer fails; else the tree builder fails or yields the tree that is evaluated
  cases tokenize src <;> try rfl
  dsimp only
  cases tokensToOperatorTree _ <;> eq_refl

theorem runString_fresh (k : Kind) (src : Str) (s : St) :
    runString k .fresh src s = ((runString k .mut_ src St.fresh).1, s) := by
  unfold runString
  cases buildOperatorTree src <;> eq_refl

theorem string_fresh {α : Type} {k : Kind} {emb : α → Value} {g : St → Res α × St} {src : Str} {s : St}
    (h : Prod.map (Except.map emb) id (g St.fresh) = runString k .mut_ src St.fresh) :
    ((Rs.call_fresh Gen.HashMapContext.new g).map emb, s) = runString k .fresh src s :=
  (fresh_run h).trans (runString_fresh k src s).symm

theorem fn_eval_agree (src : Str) (s : St) : (Gen.eval src, s) = runString .value .fresh src s := by
  rw [runString_fresh, ← fn_eval_with_context_mut_agree]
  rfl

-- a direct script for any one typed string-level entry point; the theorems below go through `typed_string` (the lemma) / `typed_run`
/-- a typed string-level wrapper: the untyped evaluator, then the projection -/
macro "typed_string" ev:term : tactic => `(tactic| (
  simp only [Gen.eval_string_with_context, Gen.eval_int_with_context, Gen.eval_float_with_context, Gen.eval_number_with_context, Gen.eval_boolean_with_context, Gen.eval_tuple_with_context, Gen.eval_empty_with_context, Gen.eval_string_with_context_mut, Gen.eval_int_with_context_mut, Gen.eval_float_with_context_mut, Gen.eval_number_with_context_mut, Gen.eval_boolean_with_context_mut, Gen.eval_tuple_with_context_mut, Gen.eval_empty_with_context_mut, Gen.eval_string, Gen.eval_int, Gen.eval_float, Gen.eval_number, Gen.eval_boolean, Gen.eval_tuple, Gen.eval_empty,
    Rs.call_fresh, Rs.M.run_call_bind, Rs.M.run_pure, Rs.M.run_call, Rs.M.run_try_ok, Rs.M.run_try_error, Rs.M.run_ret, Rs.M.run_pure_bind,
    fn_eval_with_context_agree, fn_eval_with_context_mut_agree, runString, fn_HashMapContext_new_agree, St.fresh]
  generalize buildOperatorTree _ = t
  rcases t with _ | n
  · first | rfl | simp
  · simp only [runTree, runTreeUntyped, project_value, St.fresh]
    generalize $ev _ _ = r
    rcases r with ⟨_ | v, s'⟩
    · first | rfl | simp [Kind.project, Except.map]
    · cases v <;> first | rfl | simp [Kind.project, Except.map]))

/-- a typed string-level entry point projects the answer of the untyped one -/
theorem runString_project (k : Kind) (m : Mode) (src : Str) (s : St) :
    runString k m src s = (k.project (runString .value m src s).1, (runString .value m src s).2) := by
  unfold runString
  cases buildOperatorTree src with
  | error e => rfl
  | ok n => simp only [runTree, project_value]

theorem typed_string {α : Type} {k : Kind} {emb : α → Value} {F : Res Value → Rs.M (Res α) (Res α)} {m : Mode} {src : Str}
    {f : St → Res Value × St} (hf : ∀ s, f s = runString .value m src s) (s : St)
    (hF : ∀ r s, Prod.map (Except.map emb) id (Rs.M.run (F r) s) = (k.project r, s) := by project_cases) :
    Prod.map (Except.map emb) id (Rs.M.run (Rs.call f >>= F) s) = runString k m src s := by
  rw [typed_run hf s hF, ← runString_project]

theorem fn_eval_string_with_context_agree (src : Str) (s : St) :
    Prod.map (Except.map Value.string) id (Gen.eval_string_with_context src s) = runString .string .ro src s :=
  typed_string (fn_eval_with_context_agree src) s

theorem fn_eval_int_with_context_agree (src : Str) (s : St) :
    Prod.map (Except.map Value.int) id (Gen.eval_int_with_context src s) = runString .int .ro src s :=
  typed_string (fn_eval_with_context_agree src) s

theorem fn_eval_float_with_context_agree (src : Str) (s : St) :
    Prod.map (Except.map Value.float) id (Gen.eval_float_with_context src s) = runString .float .ro src s :=
  typed_string (fn_eval_with_context_agree src) s

theorem fn_eval_number_with_context_agree (src : Str) (s : St) :
    Prod.map (Except.map Value.float) id (Gen.eval_number_with_context src s) = runString .number .ro src s :=
  typed_string (fn_eval_with_context_agree src) s

theorem fn_eval_boolean_with_context_agree (src : Str) (s : St) :
    Prod.map (Except.map Value.boolean) id (Gen.eval_boolean_with_context src s) = runString .boolean .ro src s :=
  typed_string (fn_eval_with_context_agree src) s

theorem fn_eval_tuple_with_context_agree (src : Str) (s : St) :
    Prod.map (Except.map Value.tuple) id (Gen.eval_tuple_with_context src s) = runString .tuple .ro src s :=
  typed_string (fn_eval_with_context_agree src) s

theorem fn_eval_empty_with_context_agree (src : Str) (s : St) :
    Prod.map (Except.map (fun _ => Value.empty)) id (Gen.eval_empty_with_context src s) = runString .empty .ro src s :=
  typed_string (fn_eval_with_context_agree src) s

theorem fn_eval_string_with_context_mut_agree (src : Str) (s : St) :
    Prod.map (Except.map Value.string) id (Gen.eval_string_with_context_mut src s) = runString .string .mut_ src s :=
  typed_string (fn_eval_with_context_mut_agree src) s

theorem fn_eval_int_with_context_mut_agree (src : Str) (s : St) :
    Prod.map (Except.map Value.int) id (Gen.eval_int_with_context_mut src s) = runString .int .mut_ src s :=
  typed_string (fn_eval_with_context_mut_agree src) s

theorem fn_eval_float_with_context_mut_agree (src : Str) (s : St) :
    Prod.map (Except.map Value.float) id (Gen.eval_float_with_context_mut src s) = runString .float .mut_ src s :=
  typed_string (fn_eval_with_context_mut_agree src) s

theorem fn_eval_number_with_context_mut_agree (src : Str) (s : St) :
    Prod.map (Except.map Value.float) id (Gen.eval_number_with_context_mut src s) = runString .number .mut_ src s :=
  typed_string (fn_eval_with_context_mut_agree src) s

theorem fn_eval_boolean_with_context_mut_agree (src : Str) (s : St) :
    Prod.map (Except.map Value.boolean) id (Gen.eval_boolean_with_context_mut src s) = runString .boolean .mut_ src s :=
  typed_string (fn_eval_with_context_mut_agree src) s

theorem fn_eval_tuple_with_context_mut_agree (src : Str) (s : St) :
    Prod.map (Except.map Value.tuple) id (Gen.eval_tuple_with_context_mut src s) = runString .tuple .mut_ src s :=
  typed_string (fn_eval_with_context_mut_agree src) s

theorem fn_eval_empty_with_context_mut_agree (src : Str) (s : St) :
    Prod.map (Except.map (fun _ => Value.empty)) id (Gen.eval_empty_with_context_mut src s) = runString .empty .mut_ src s :=
  typed_string (fn_eval_with_context_mut_agree src) s

theorem fn_eval_string_agree (src : Str) (s : St) :
    ((Gen.eval_string src).map Value.string, s) = runString .string .fresh src s :=
  string_fresh (fn_eval_string_with_context_mut_agree src _)

theorem fn_eval_int_agree (src : Str) (s : St) :
    ((Gen.eval_int src).map Value.int, s) = runString .int .fresh src s :=
  string_fresh (fn_eval_int_with_context_mut_agree src _)

theorem fn_eval_float_agree (src : Str) (s : St) :
    ((Gen.eval_float src).map Value.float, s) = runString .float .fresh src s :=
  string_fresh (fn_eval_float_with_context_mut_agree src _)

theorem fn_eval_number_agree (src : Str) (s : St) :
    ((Gen.eval_number src).map Value.float, s) = runString .number .fresh src s :=
  string_fresh (fn_eval_number_with_context_mut_agree src _)

theorem fn_eval_boolean_agree (src : Str) (s : St) :
    ((Gen.eval_boolean src).map Value.boolean, s) = runString .boolean .fresh src s :=
  string_fresh (fn_eval_boolean_with_context_mut_agree src _)

theorem fn_eval_tuple_agree (src : Str) (s : St) :
    ((Gen.eval_tuple src).map Value.tuple, s) = runString .tuple .fresh src s :=
  string_fresh (fn_eval_tuple_with_context_mut_agree src _)

theorem fn_eval_empty_agree (src : Str) (s : St) :
    ((Gen.eval_empty src).map (fun _ => Value.empty), s) = runString .empty .fresh src s :=
  string_fresh (fn_eval_empty_with_context_mut_agree src _)

end Evalexpr.AgreeFn

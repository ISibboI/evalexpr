/-
Proofs/SmallStep.lean — adequacy of the small-step machine (`Spec/SmallStep.lean`) for the big-step
model function `Node.evalRO`, with an explicit step bound.
-/
import EvalexprVerif.Spec.SmallStep
import EvalexprVerif.Proofs.EvalOps
import EvalexprVerif.Proofs.EvalInduction

namespace Evalexpr.Machine
open Evalexpr Evalexpr.Spec

theorem run_zero (c : Ctx) (st : MState) : run c 0 st = st := rfl
theorem run_succ (c : Ctx) (k : Nat) (st : MState) : run c (k + 1) st = run c k (step c st) := rfl

theorem run_add (c : Ctx) (a b : Nat) (st : MState) : run c (a + b) st = run c b (run c a st) := by
  induction a generalizing st with
  | zero => simp [run]
  | succ a ih => rw [Nat.add_right_comm, run_succ, run_succ, ih]

theorem run_finished (c : Ctx) (k : Nat) (r : Res Value) (K : List Frame)
    (log : List (Str × Value)) : run c k ⟨.finished r, K, log⟩ = ⟨.finished r, K, log⟩ := by
  induction k with
  | zero => rfl
  | succ k ih => exact ih

def Reaches (c : Ctx) (b : Nat) (st st' : MState) : Prop := ∃ k, k ≤ b ∧ run c k st = st'

theorem Reaches.refl (c : Ctx) (st : MState) : Reaches c 0 st st := ⟨0, Nat.le_refl _, rfl⟩

theorem Reaches.step {c : Ctx} {a b : Nat} {s₁ s₂ s₃ : MState} (h₀ : Machine.step c s₁ = s₂)
    (h : Reaches c a s₂ s₃) (hab : a + 1 ≤ b) : Reaches c b s₁ s₃ := by
  rcases h with ⟨k, hk, h⟩
  exact ⟨k + 1, Nat.le_trans (Nat.succ_le_succ hk) hab, by rw [run_succ, h₀, h]⟩

theorem Reaches.trans {c : Ctx} {a b : Nat} {s₁ s₂ s₃ : MState} (h₁ : Reaches c a s₁ s₂)
    (h₂ : Reaches c b s₂ s₃) : Reaches c (a + b) s₁ s₃ := by
  rcases h₁ with ⟨k₁, hk₁, h₁⟩
  rcases h₂ with ⟨k₂, hk₂, h₂⟩
  exact ⟨k₁ + k₂, Nat.add_le_add hk₁ hk₂, by rw [run_add, h₁, h₂]⟩

theorem Reaches.run_finished {c : Ctx} {b : Nat} {st : MState} {r : Res Value} {K : List Frame}
    {log : List (Str × Value)} (h : Reaches c b st ⟨.finished r, K, log⟩) (f : Nat) (hf : b ≤ f) :
    run c f st = ⟨.finished r, K, log⟩ := by
  rcases h with ⟨k, hk, h⟩
  have : f = k + (f - k) := by omega
  rw [this, run_add, h, Machine.run_finished]

theorem fnRet_reaches (c : Ctx) (id : Str) (arg : Value) (r : Res Value) (K : List Frame)
    (log : List (Str × Value)) :
    Reaches c 2 ⟨.fnRet id arg r, K, log⟩ ⟨ofRes (afterCall c id arg r), K, log⟩ := by
  cases r with
  | ok v => exact ⟨1, by decide, rfl⟩
  | error e =>
    cases e
    case functionIdentifierNotFound x =>
      cases hb : c.builtinsDisabled
      · -- builtins enabled: on to `builtin`, then its answer
        refine ⟨2, by decide, ?_⟩
        rw [run_succ, run_succ, run_zero]
        have h1 : step c ⟨.fnRet id arg (.error (.functionIdentifierNotFound x)), K, log⟩ =
            ⟨.builtin id arg, K, log⟩ := by
          simp [step, MState.pending, read, hb]
        rw [h1]
        simp only [afterCall, hb]
        cases hf : builtinFunction id <;> simp [step, MState.pending, hf, ofRes]
      · -- builtins disabled: the error is raised
        refine ⟨1, by decide, ?_⟩
        rw [run_succ, run_zero]
        simp [step, MState.pending, read, hb, afterCall, ofRes]
    -- any other error is raised in one step
    all_goals exact ⟨1, by decide, rfl⟩

theorem apply_reaches (op : Operator) (args : List Value) (K : List Frame) (s : St) :
    Reaches s.ctx 4 ⟨.apply op args, K, s.log⟩
      ⟨ofRes (op.eval args s).1, K, (op.eval args s).2.log⟩ := by
  rcases s with ⟨c, log⟩
  cases op
  case varRead id =>
    cases args with
    | nil =>
      refine ⟨1, by decide, ?_⟩
      rw [run_succ, run_zero]
      simp only [step, MState.pending, applyPending, read, Operator.eval]
      cases c.getValue id <;> rfl
    | cons a as => exact ⟨1, by decide, rfl⟩
  case fn id =>
    cases args with
    | nil => exact ⟨1, by decide, rfl⟩
    | cons arg as =>
      cases as with
      | cons b bs => exact ⟨1, by decide, rfl⟩
      | nil =>
        have he : Operator.eval (.fn id) [arg] ⟨c, log⟩ = callFunction id arg ⟨c, log⟩ := rfl
        rw [he, callFunction_eq]
        dsimp only
        cases hu : c.userFn id with
        | none =>
          have h1 : step c ⟨.apply (.fn id) [arg], K, log⟩ =
              ⟨.fnRet id arg (.error (.functionIdentifierNotFound id)), K, log⟩ := by
            simp [step, MState.pending, applyPending, read, hu]
          exact .step h1 (fnRet_reaches c id arg _ K log) (by decide)
        | some f =>
          have h1 : step c ⟨.apply (.fn id) [arg], K, log⟩ = ⟨.call id arg f, K, log⟩ := by
            simp [step, MState.pending, applyPending, read, hu]
          exact .step h1 (.step rfl (fnRet_reaches c id arg (f arg) K (log ++ [(id, arg)]))
            (Nat.le_refl 3)) (Nat.le_refl 4)
  -- the context-free operators: one local step
  all_goals exact ⟨1, by decide, rfl⟩

/-- where the child loop of an `op` node arrives -/
def kidsTarget (op : Operator) (done : List Value) (K : List Frame) :
    Res (List Value) × St → MState
  | (.ok vs, s') => ⟨.apply op (done ++ vs), K, s'.log⟩
  | (.error e, s') => ⟨.raise e, K, s'.log⟩

/-- what the machine does on a node that evaluates from `s` to `p`: from `enter n` it arrives,
within `cost n` steps and with the control stack it started with, at `ret v` / `raise e` for exactly
that result, with exactly that log; the context is the one it started with -/
def EnterReaches (n : Node) (s : St) (p : Res Value × St) : Prop :=
  p.2.ctx = s.ctx ∧ ∀ K, Reaches s.ctx (cost n) ⟨.enter n, K, s.log⟩ ⟨ofRes p.1, K, p.2.log⟩

/-- the `for child in self.children()` loop: all values collected in order, or the first error,
which has already unwound through this node -/
def KidsReaches (cs : List Node) (s : St) (p : Res (List Value) × St) : Prop :=
  p.2.ctx = s.ctx ∧ ∀ op done K,
    Reaches s.ctx (costList cs) ⟨.kids op done cs, K, s.log⟩ (kidsTarget op done K p)

theorem walk_reaches : (∀ n s, EnterReaches n s (evalG Operator.eval n s)) ∧
    ∀ cs s, KidsReaches cs s (evalGList Operator.eval cs s) :=
  evalG_ind Operator.eval (P := EnterReaches) (PL := KidsReaches)
    -- enter, the child loop, then the operator
    (apply := fun op cs s args s' h => ⟨(eval_ctx op args s').trans h.1, fun K =>
      .step rfl ((h.2 op [] K).trans (h.1 ▸ apply_reaches op args K s')) (by rw [cost]; omega)⟩)
    -- enter, then the child loop, which has already raised
    (childError := fun op cs s e s' h =>
      ⟨h.1, fun K => .step rfl (h.2 op [] K) (by rw [cost]; omega)⟩)
    -- no child left: on to `apply`
    (nil := fun s => ⟨rfl, fun op done K => by
      rw [costList]
      exact ⟨1, Nat.le_refl _, by simp [kidsTarget, run, step, MState.pending]⟩⟩)
    -- push the frame, the head raises, one step unwinds the frame
    (consError := fun c cs s e s' h => ⟨h.1, fun op done K =>
      .step rfl ((h.2 _).trans (.step rfl (.refl _ _) (Nat.le_refl 1))) (by rw [costList]; omega)⟩)
    -- push the frame, the head returns `v` into it, the loop goes on with `done ++ [v]`
    (consOk := fun c cs s s₁ s₂ v vs h h2 => ⟨h2.1.trans h.1, fun op done K => by
      have h3 := h.1 ▸ h2.2 op (done ++ [v]) K
      simp only [kidsTarget, List.append_assoc, List.singleton_append] at h3 ⊢
      exact .step rfl ((h.2 _).trans (.step rfl h3 (Nat.le_refl _))) (by rw [costList]; omega)⟩)
    (consOkError := fun c cs s s₁ s₂ v e h h2 => ⟨h2.1.trans h.1, fun op done K =>
      .step rfl ((h.2 _).trans (.step rfl (h.1 ▸ h2.2 op (done ++ [v]) K) (Nat.le_refl _)))
        (by rw [costList]; omega)⟩)

theorem enter_reaches (c : Ctx) (n : Node) (K : List Frame) (log : List (Str × Value)) :
    Reaches c (cost n) ⟨.enter n, K, log⟩
      ⟨ofRes (n.evalRO ⟨c, log⟩).1, K, (n.evalRO ⟨c, log⟩).2.log⟩ := by
  rw [evalRO_eq_evalG]; exact (walk_reaches.1 n ⟨c, log⟩).2 K

theorem kids_reaches (c : Ctx) (op : Operator) (done : List Value) (cs : List Node)
    (K : List Frame) (log : List (Str × Value)) :
    Reaches c (costList cs) ⟨.kids op done cs, K, log⟩
      (kidsTarget op done K (evalROList cs ⟨c, log⟩)) := by
  rw [evalROList_eq_evalGList]; exact (walk_reaches.2 cs ⟨c, log⟩).2 op done K

theorem adequacy (c : Ctx) (n : Node) (log : List (Str × Value)) (f : Nat) (hf : bound n ≤ f) :
    run c f (init n log) =
      ⟨.finished (n.evalRO ⟨c, log⟩).1, [], (n.evalRO ⟨c, log⟩).2.log⟩ := by
  have h := enter_reaches c n [] log
  have h1 : Reaches c 1 ⟨ofRes (n.evalRO ⟨c, log⟩).1, [], (n.evalRO ⟨c, log⟩).2.log⟩
      ⟨.finished (n.evalRO ⟨c, log⟩).1, [], (n.evalRO ⟨c, log⟩).2.log⟩ := by
    refine ⟨1, Nat.le_refl _, ?_⟩
    cases (n.evalRO ⟨c, log⟩).1 <;> rfl
  exact (h.trans h1).run_finished f hf

theorem adequacy_result (c : Ctx) (n : Node) (log : List (Str × Value)) (f : Nat)
    (hf : bound n ≤ f) :
    (run c f (init n log)).result? = some ((n.evalRO ⟨c, log⟩).1, (n.evalRO ⟨c, log⟩).2.log) := by
  rw [adequacy c n log f hf]; rfl

theorem run_of_result {c : Ctx} {st : MState} {r : Res Value} {l : List (Str × Value)}
    (h : st.result? = some (r, l)) (k : Nat) : run c k st = st := by
  rcases st with ⟨fo, K, log⟩
  cases fo <;> simp [MState.result?] at h
  exact run_finished c k _ K log

theorem result_of_finished (c : Ctx) (n : Node) (log : List (Str × Value)) (k : Nat)
    (r : Res Value) (l : List (Str × Value)) (h : (run c k (init n log)).result? = some (r, l)) :
    r = (n.evalRO ⟨c, log⟩).1 ∧ l = (n.evalRO ⟨c, log⟩).2.log := by
  have h1 := run_of_result (c := c) h (bound n)
  rw [← run_add] at h1
  rw [← h1, adequacy_result c n log (k + bound n) (Nat.le_add_left _ _)] at h
  simp only [Option.some.injEq, Prod.mk.injEq] at h
  exact ⟨h.1.symm, h.2.symm⟩

end Evalexpr.Machine

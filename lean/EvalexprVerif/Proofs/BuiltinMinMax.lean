/-
Proofs/BuiltinMinMax.lean — property C10, part 4: `min` / `max`. The accumulation loop keeps the
running integer extremum and the running float extremum; the result is an argument and bounds
every argument w.r.t. the language's own `<=` (`numLe`) when no argument is NaN.

The order facts about `Float` come from `Proofs/FloatOrder.lean`; those about `Int64.toFloat` are the
hypotheses `FloatOrderLaws`, used only when the arguments mix ints and floats.
-/
import EvalexprVerif.Spec.RefBuiltin
import EvalexprVerif.Proofs.FloatOrder
import EvalexprVerif.Proofs.BuiltinBasic

namespace Evalexpr.Spec
open Evalexpr

/-- what is assumed (not proved: `Int64.toFloat` is opaque in core Lean) about the `as f64`
conversion: it never yields NaN and it is monotone (true of IEEE round-to-nearest). -/
structure FloatOrderLaws : Prop where
  toFloat_not_nan : ∀ i : Int64, i.toFloat.isNaN = false
  toFloat_mono : ∀ a b : Int64, a.toInt ≤ b.toInt → a.toFloat ≤ b.toFloat

section Best
variable {α : Type} {f : α → α → α} {R : α → α → Prop} {good : α → Prop}

/-- what an accumulator of the loop holds after the list: nothing, or the fold from the first element -/
def best (f : α → α → α) : List α → Option α
  | [] => none
  | x :: xs => some (xs.foldl f x)

/-- of two `good` values, `f` returns one that is `R`-below the other -/
structure Picks (f : α → α → α) (R : α → α → Prop) (good : α → Prop) : Prop where
  sel : ∀ m x, good m → good x → (f m x = m ∧ R m x) ∨ (f m x = x ∧ R x m)
  refl : ∀ x, good x → R x x
  trans : ∀ a b c, R a b → R b c → R a c

theorem foldl_picks (ops : Picks f R good) : ∀ (xs : List α) (m : α), good m → (∀ x ∈ xs, good x) →
    (xs.foldl f m = m ∨ xs.foldl f m ∈ xs) ∧ R (xs.foldl f m) m ∧ ∀ x ∈ xs, R (xs.foldl f m) x
  | [], m, hm, _ => ⟨.inl rfl, ops.refl m hm, nofun⟩
  | y :: ys, m, hm, h => by
    obtain ⟨hy, hys⟩ := List.forall_mem_cons.1 h
    rw [List.foldl_cons]
    rcases ops.sel m y hm hy with ⟨e, r⟩ | ⟨e, r⟩ <;> rw [e]
    · -- the accumulator `m` stays
      obtain ⟨h1, h2, h3⟩ := foldl_picks ops ys m hm hys
      exact ⟨h1.imp_right (List.mem_cons_of_mem _), h2,
        List.forall_mem_cons.2 ⟨ops.trans _ _ _ h2 r, h3⟩⟩
    · -- the new element `y` replaces it
      obtain ⟨h1, h2, h3⟩ := foldl_picks ops ys y hy hys
      exact ⟨.inr (List.mem_cons.2 h1), ops.trans _ _ _ h2 r, List.forall_mem_cons.2 ⟨h2, h3⟩⟩

theorem best_spec (ops : Picks f R good) (xs : List α) (h : ∀ x ∈ xs, good x) :
    match best f xs with
    | none => xs = []
    | some r => r ∈ xs ∧ ∀ x ∈ xs, R r x := by
  cases xs with
  | nil => rfl
  | cons x xs =>
    obtain ⟨hx, hxs⟩ := List.forall_mem_cons.1 h
    obtain ⟨h1, h2, h3⟩ := foldl_picks ops xs x hx hxs
    exact ⟨List.mem_cons.2 h1, List.forall_mem_cons.2 ⟨h2, h3⟩⟩

end Best

def ints (args : List Value) : List Int64 := args.filterMap fun | .int i => some i | _ => none
def floats (args : List Value) : List Float := args.filterMap fun | .float f => some f | _ => none

theorem mem_ints {args : List Value} {i : Int64} : i ∈ ints args ↔ .int i ∈ args := by
  simp only [ints, List.mem_filterMap]
  constructor
  · rintro ⟨v, hv, h⟩; cases v <;> cases h; exact hv
  · exact fun h => ⟨_, h, rfl⟩

theorem mem_floats {args : List Value} {g : Float} : g ∈ floats args ↔ .float g ∈ args := by
  simp only [floats, List.mem_filterMap]
  constructor
  · rintro ⟨v, hv, h⟩; cases v <;> cases h; exact hv
  · exact fun h => ⟨_, h, rfl⟩

/-- the loop stops at the first argument that is no number; otherwise it leaves the extremum of
the ints and the extremum of the floats -/
theorem minMaxFold_eq (fi : Int64 → Int64 → Int64) (ff : Float → Float → Float) :
    ∀ (args : List Value) (mi : Option Int64) (mf : Option Float),
      minMaxFold fi ff args mi mf =
        match args.find? (fun v => !isNum v) with
        | some v => .error (.expectedNumber v)
        | none => .ok (best fi (mi.toList ++ ints args), best ff (mf.toList ++ floats args))
  | [], mi, mf => by cases mi <;> cases mf <;> rfl
  | v :: rest, mi, mf => by
    cases v
    case int i =>
      show minMaxFold fi ff rest (some _) mf = _
      rw [minMaxFold_eq fi ff rest]; cases mi <;> rfl
    case float g =>
      show minMaxFold fi ff rest mi (some _) = _
      rw [minMaxFold_eq fi ff rest]; cases mf <;> rfl
    all_goals rfl

theorem find?_not_isNum (args : List Value) :
    args.find? (fun v => !isNum v) = none ↔ args.all isNum = true := by
  simp [List.find?_eq_none, List.all_eq_true]

theorem plain_minMax (fi ff pick) (arg : Value) : Plain (minMax fi ff pick arg) := by
  unfold minMax
  rw [minMaxFold_eq]
  cases (minMaxArgs arg).find? fun v => !isNum v
  case some => rfl
  dsimp only
  generalize best fi _ = bi
  generalize best ff _ = bf
  rcases bi with _ | i <;> rcases bf with _ | g
  case none.none => rfl  -- no argument: `WrongFunctionArgumentAmount`
  case some.some => show Plain (if _ then _ else _ : Res Value); split <;> trivial
  all_goals trivial

def NotNaN (x : Float) : Prop := x.isNaN = false

structure Compares (pick : Float → Float → Bool) (Rf : Float → Float → Prop) : Prop where
  of_true : ∀ x g, NotNaN x → NotNaN g → pick x g = true → Rf x g
  of_false : ∀ x g, NotNaN x → NotNaN g → pick x g = false → Rf g x

def MixedArgs (args : List Value) : Prop := (∃ i, Value.int i ∈ args) ∧ (∃ g, Value.float g ∈ args)

/-- The result of `minMax` is an argument that is `le` every argument. `le v a` ("`v` is at least as
extreme as `a`") is `R` on ints and `Rf` on floats, an int meeting a float after conversion. -/
theorem minMax_generic {fi ff pick} {R : Int64 → Int64 → Prop} {Rf : Float → Float → Prop}
    {le : Value → Value → Prop}
    (pI : Picks fi R (fun _ => True)) (pF : Picks ff Rf NotNaN) (cmp : Compares pick Rf)
    (leII : ∀ x y, R x y → le (.int x) (.int y)) (leIF : ∀ x y, Rf x.toFloat y → le (.int x) (.float y))
    (leFI : ∀ x y, Rf x y.toFloat → le (.float x) (.int y)) (leFF : ∀ x y, Rf x y → le (.float x) (.float y))
    (arg : Value)
    (hne : (minMaxArgs arg).isEmpty = false) (hnum : (minMaxArgs arg).all isNum = true)
    (hnan : hasNaN (minMaxArgs arg) = false)
    (cross : MixedArgs (minMaxArgs arg) →
      (∀ i : Int64, NotNaN i.toFloat) ∧ (∀ a b, R a b → Rf a.toFloat b.toFloat)) :
    ∃ v, minMax fi ff pick arg = .ok v ∧ v ∈ minMaxArgs arg ∧ ∀ a ∈ minMaxArgs arg, le v a := by
  unfold minMax
  generalize minMaxArgs arg = args at *
  have notNaN : ∀ g ∈ floats args, NotNaN g := fun g hg =>
    by simpa [NotNaN] using List.any_eq_false.1 hnan _ (mem_floats.1 hg)
  have hI := best_spec pI (ints args) (fun _ _ => trivial)
  have hF := best_spec pF (floats args) notNaN
  have all : ∀ v, (∀ j ∈ ints args, le v (.int j)) → (∀ g ∈ floats args, le v (.float g)) →
      ∀ a ∈ args, le v a := by
    intro v hi hf a ha
    have := List.all_eq_true.1 hnum a ha
    cases a with
    | int j => exact hi _ (mem_ints.2 ha)
    | float g => exact hf _ (mem_floats.2 ha)
    | _ => cases this
  rw [minMaxFold_eq, (find?_not_isNum args).2 hnum]
  dsimp only [Option.toList, List.nil_append]
  generalize best fi (ints args) = bi at hI ⊢
  generalize best ff (floats args) = bf at hF ⊢
  rcases bi with _ | i <;> rcases bf with _ | g
  case none.none =>
    -- neither an int nor a float: impossible for a non-empty list of numbers
    cases args with
    | nil => cases hne
    | cons v _ =>
      have := List.all_eq_true.1 hnum v (List.mem_cons_self ..)
      cases v with
      | int j => cases hI
      | float g => cases hF
      | _ => cases this
  case none.some =>
    -- floats only: their extremum
    exact ⟨_, rfl, mem_floats.1 hF.1, all _ (by simp [hI]) fun g' hg => leFF _ _ (hF.2 g' hg)⟩
  case some.none =>
    -- ints only: their extremum
    exact ⟨_, rfl, mem_ints.1 hI.1, all _ (fun j hj => leII _ _ (hI.2 j hj)) (by simp [hF])⟩
  case some.some =>
    -- ints and floats: `pick` compares the int extremum, converted, with the float extremum
    obtain ⟨cn, cm⟩ := cross ⟨⟨i, mem_ints.1 hI.1⟩, ⟨g, mem_floats.1 hF.1⟩⟩
    show ∃ v, (if pick i.toFloat g = true then Except.ok (Value.int i) else .ok (.float g)) = .ok v ∧ _
    cases hp : pick i.toFloat g
    · -- the float is returned: it bounds the int extremum, hence (conversion is monotone) every int
      have hr := cmp.of_false _ _ (cn i) (notNaN g hF.1) hp
      exact ⟨_, rfl, mem_floats.1 hF.1,
        all _ (fun j hj => leFI _ _ (pF.trans _ _ _ hr (cm _ _ (hI.2 j hj))))
          fun g' hg => leFF _ _ (hF.2 g' hg)⟩
    · -- the int is returned: it bounds the float extremum, hence every float
      have hr := cmp.of_true _ _ (cn i) (notNaN g hF.1) hp
      exact ⟨_, rfl, mem_ints.1 hI.1, all _ (fun j hj => leII _ _ (hI.2 j hj))
        fun g' hg => leIF _ _ (pF.trans _ _ _ hr (hF.2 g' hg))⟩

theorem picks_i64min : Picks i64min (fun a b => a.toInt ≤ b.toInt) (fun _ => True) where
  sel m x _ _ := by
    unfold i64min; split
    · rename_i h; exact .inl ⟨rfl, h⟩
    · rename_i h; exact .inr ⟨rfl, by omega⟩
  refl x _ := Int.le_refl _
  trans a b c := Int.le_trans

theorem picks_i64max : Picks i64max (fun a b => b.toInt ≤ a.toInt) (fun _ => True) where
  sel m x _ _ := by
    unfold i64max; split
    · rename_i h; exact .inr ⟨rfl, h⟩
    · rename_i h; exact .inl ⟨rfl, by omega⟩
  refl x _ := Int.le_refl _
  trans a b c h1 h2 := Int.le_trans h2 h1

theorem picks_fmin : Picks F64.fmin (fun a b : Float => a ≤ b) NotNaN where
  sel m x hm hx := by
    rw [F64.fmin, if_neg (Bool.eq_false_iff.1 hm), if_neg (Bool.eq_false_iff.1 hx)]
    split
    · rename_i h; exact .inl ⟨rfl, FloatOrder.le_of_lt m x h⟩
    · rename_i h; exact .inr ⟨rfl, FloatOrder.le_of_not_lt m x hm hx h⟩
  refl := FloatOrder.le_refl
  trans := FloatOrder.le_trans

theorem picks_fmax : Picks F64.fmax (fun a b : Float => b ≤ a) NotNaN where
  sel m x hm hx := by
    rw [F64.fmax, if_neg (Bool.eq_false_iff.1 hm), if_neg (Bool.eq_false_iff.1 hx)]
    split
    · rename_i h; exact .inl ⟨rfl, FloatOrder.le_of_lt x m h⟩
    · rename_i h; exact .inr ⟨rfl, FloatOrder.le_of_not_lt x m hx hm h⟩
  refl := FloatOrder.le_refl
  trans a b c h1 h2 := FloatOrder.le_trans c b a h2 h1

theorem compares_lt : Compares (fun i f => decide (i < f)) (fun a b : Float => a ≤ b) where
  of_true x g _ _ h := FloatOrder.le_of_lt x g (by simpa using h)
  of_false x g hx hg h := FloatOrder.le_of_not_lt x g hx hg (by simpa using h)

theorem compares_gt : Compares (fun i f => decide (i > f)) (fun a b : Float => b ≤ a) where
  of_true x g _ _ h := FloatOrder.le_of_lt g x (by simpa using h)
  of_false x g hx hg h := FloatOrder.le_of_not_lt g x hg hx (by simpa using h)

theorem extremum_args (mk : List Value → BuiltinRef) (arg : Value) :
    extremum mk arg =
      if (minMaxArgs arg).isEmpty then .error
      else if !(minMaxArgs arg).all isNum then .error
      else if hasNaN (minMaxArgs arg) then .any
      else mk (minMaxArgs arg) := by
  cases arg <;> rfl

theorem minMax_meets {fi ff pick} (mk : List Value → BuiltinRef) (arg : Value)
    (hmain : (minMaxArgs arg).isEmpty = false → (minMaxArgs arg).all isNum = true →
      hasNaN (minMaxArgs arg) = false → MeetsP (minMax fi ff pick arg) (mk (minMaxArgs arg))) :
    MeetsP (minMax fi ff pick arg) (extremum mk arg) := by
  rw [extremum_args]
  cases he : (minMaxArgs arg).isEmpty
  · cases hn : (minMaxArgs arg).all isNum
    · -- some argument is no number: the loop stops there
      cases hf : (minMaxArgs arg).find? fun v => !isNum v with
      | none => rw [(find?_not_isNum _).1 hf] at hn; cases hn
      | some v => exact ⟨.expectedNumber v, by unfold minMax; rw [minMaxFold_eq, hf], rfl⟩
    · cases hnan : hasNaN (minMaxArgs arg)
      · -- numbers without a NaN: the documented claim
        exact hmain he hn hnan
      · -- a NaN among the arguments: unclaimed, only no panic
        intro e h
        have := plain_minMax fi ff pick arg
        rw [h] at this; exact this
  · -- no argument
    have : minMaxArgs arg = [] := by simpa using he
    refine ⟨.wrongFunctionArgumentAmount 1 usizeMax 0, ?_, rfl⟩
    unfold minMax; rw [this]; rfl

theorem C10_min_of (arg : Value) (hl : MixedArgs (minMaxArgs arg) → FloatOrderLaws) :
    MeetsP (Builtin.call .min arg) (refBuiltin .min arg) := by
  show MeetsP (minMax i64min F64.fmin (fun i f => decide (i < f)) arg) (extremum .smallestOf arg)
  apply minMax_meets
  intro he hn hnan
  exact minMax_generic (le := fun v a => numLe v a = true) picks_i64min picks_fmin compares_lt
    (fun _ _ => decide_eq_true) (fun _ _ => decide_eq_true) (fun _ _ => decide_eq_true)
    (fun _ _ => decide_eq_true) arg he hn hnan
    (fun hm => ⟨(hl hm).toFloat_not_nan, (hl hm).toFloat_mono⟩)

theorem C10_max_of (arg : Value) (hl : MixedArgs (minMaxArgs arg) → FloatOrderLaws) :
    MeetsP (Builtin.call .max arg) (refBuiltin .max arg) := by
  show MeetsP (minMax i64max F64.fmax (fun i f => decide (i > f)) arg) (extremum .largestOf arg)
  apply minMax_meets
  intro he hn hnan
  exact minMax_generic (le := fun v a => numLe a v = true) picks_i64max picks_fmax compares_gt
    (fun _ _ => decide_eq_true) (fun _ _ => decide_eq_true) (fun _ _ => decide_eq_true)
    (fun _ _ => decide_eq_true) arg he hn hnan
    (fun hm => ⟨(hl hm).toFloat_not_nan, fun a b h => (hl hm).toFloat_mono b a h⟩)

theorem C10_minmax (laws : FloatOrderLaws) (arg : Value) :
    MeetsB (Builtin.call .min arg) (refBuiltin .min arg) ∧
    MeetsB (Builtin.call .max arg) (refBuiltin .max arg) :=
  ⟨(C10_min_of arg fun _ => laws).meetsB, (C10_max_of arg fun _ => laws).meetsB⟩

theorem C10_minmax_unmixed (arg : Value) (h : ¬ MixedArgs (minMaxArgs arg)) :
    MeetsB (Builtin.call .min arg) (refBuiltin .min arg) ∧
    MeetsB (Builtin.call .max arg) (refBuiltin .max arg) :=
  ⟨(C10_min_of arg fun hm => (h hm).elim).meetsB, (C10_max_of arg fun hm => (h hm).elim).meetsB⟩

def isInt : Value → Bool
  | .int _ => true
  | _ => false

theorem C10_minmax_int (arg : Value) (h : (minMaxArgs arg).all isInt = true) :
    MeetsB (Builtin.call .min arg) (refBuiltin .min arg) ∧
    MeetsB (Builtin.call .max arg) (refBuiltin .max arg) := by
  apply C10_minmax_unmixed
  rintro ⟨-, g, hg⟩
  have := List.all_eq_true.1 h _ hg
  simp [isInt] at this

end Evalexpr.Spec

/-
Proofs/AgreeFnContext.lean — the `Context` implementations of src/context/mod.rs translated on this run
(`Generated/FnContext.lean`) equal the Model's `Ctx.*` functions at the corresponding context
(`EmptyContext` ↦ `Ctx.empty`, `EmptyContextWithBuiltinFunctions` ↦ `Ctx.emptyWithBuiltins`,
`HashMapContext` ↦ `Ctx.hashMap h`), for all inputs. `&mut self` methods return the new `self` next
to their result; the Model returns `Res Ctx` (`setBuiltinsDisabled`, `setFunction`) or the new context.
`HashMapContext::set_value` writes through the reference obtained from `get_mut(key)`: rendered as
`insert(key, value)` (translate_fn.py rule "entry reference"), and proved equal to `HashMapCtx.setValue`.
-/
import EvalexprVerif.Generated.FnContext
import EvalexprVerif.Translate.Lemmas
import EvalexprVerif.Proofs.AgreeFnError
import EvalexprVerif.Proofs.AgreeFnValueType

namespace Evalexpr.AgreeFn
open Evalexpr

theorem fn_EmptyContext_get_value_agree (id : Str) :
    Gen.EmptyContext.get_value () id = Ctx.getValue .empty id := rfl
theorem fn_EmptyContext_call_function_agree (id : Str) (arg : Value) :
    Gen.EmptyContext.call_function () id arg = Ctx.callFunction .empty id arg := rfl
theorem fn_EmptyContext_are_builtin_functions_disabled_agree :
    Gen.EmptyContext.are_builtin_functions_disabled () = Ctx.builtinsDisabled .empty := rfl
theorem fn_EmptyContext_set_builtin_functions_disabled_agree (d : Bool) :
    Ctx.setBuiltinsDisabled .empty d = (Gen.EmptyContext.set_builtin_functions_disabled () d).1.map (fun _ => Ctx.empty) := by
  cases d <;> eq_refl

theorem fn_EmptyContextWithBuiltinFunctions_get_value_agree (id : Str) :
    Gen.EmptyContextWithBuiltinFunctions.get_value () id = Ctx.getValue .emptyWithBuiltins id := rfl
theorem fn_EmptyContextWithBuiltinFunctions_call_function_agree (id : Str) (arg : Value) :
    Gen.EmptyContextWithBuiltinFunctions.call_function () id arg = Ctx.callFunction .emptyWithBuiltins id arg := rfl
theorem fn_EmptyContextWithBuiltinFunctions_are_builtin_functions_disabled_agree :
    Gen.EmptyContextWithBuiltinFunctions.are_builtin_functions_disabled () = Ctx.builtinsDisabled .emptyWithBuiltins := rfl
theorem fn_EmptyContextWithBuiltinFunctions_set_builtin_functions_disabled_agree (d : Bool) :
    Ctx.setBuiltinsDisabled .emptyWithBuiltins d =
      (Gen.EmptyContextWithBuiltinFunctions.set_builtin_functions_disabled () d).1.map (fun _ => Ctx.emptyWithBuiltins) := by
  cases d <;> eq_refl

theorem fn_HashMapContext_get_value_agree (h : HashMapCtx) (id : Str) :
    Gen.HashMapContext.get_value h id = Ctx.getValue (.hashMap h) id := rfl
theorem fn_HashMapContext_call_function_agree (h : HashMapCtx) (id : Str) (arg : Value) :
    Gen.HashMapContext.call_function h id arg = Ctx.callFunction (.hashMap h) id arg := by
  simp only [Gen.HashMapContext.call_function, Ctx.callFunction, Ctx.userFn, Rs.get_map, Rs.fn_call_user]
  cases alookup id h.funs <;> eq_refl
theorem fn_HashMapContext_are_builtin_functions_disabled_agree (h : HashMapCtx) :
    Gen.HashMapContext.are_builtin_functions_disabled h = Ctx.builtinsDisabled (.hashMap h) := rfl
theorem fn_HashMapContext_set_builtin_functions_disabled_agree (h : HashMapCtx) (d : Bool) :
    Ctx.setBuiltinsDisabled (.hashMap h) d =
      (Gen.HashMapContext.set_builtin_functions_disabled h d).1.map
        (fun _ => Ctx.hashMap (Gen.HashMapContext.set_builtin_functions_disabled h d).2) := rfl
theorem fn_HashMapContext_set_function_agree (h : HashMapCtx) (id : Str) (f : UserFn) :
    Ctx.setFunction (.hashMap h) id f =
      (Gen.HashMapContext.set_function h id f).1.map (fun _ => Ctx.hashMap (Gen.HashMapContext.set_function h id f).2) := rfl
theorem fn_HashMapContext_clear_variables_agree (h : HashMapCtx) :
    (Gen.HashMapContext.clear_variables h).2 = h.clearVariables := rfl
theorem fn_HashMapContext_clear_functions_agree (h : HashMapCtx) :
    (Gen.HashMapContext.clear_functions h).2 = h.clearFunctions := rfl
theorem fn_HashMapContext_clear_agree (h : HashMapCtx) :
    (Gen.HashMapContext.clear h).2 = h.clear := rfl

theorem fn_HashMapContext_new_agree : Gen.HashMapContext.new = ({} : HashMapCtx) := rfl
theorem fn_HashMapContext_default_agree : Gen.HashMapContext.default = ({} : HashMapCtx) := rfl

/-- `HashMapContext::set_value`: the result, and the new context when it succeeds -/
theorem fn_HashMapContext_set_value_agree (h : HashMapCtx) (id : Str) (v : Value) :
    HashMapCtx.setValue h id v =
      (Gen.HashMapContext.set_value h id v).1.map (fun _ => (Gen.HashMapContext.set_value h id v).2) := by
  simp only [Gen.HashMapContext.set_value, HashMapCtx.setValue, Rs.get_map, fn_ValueType_from_Value_agree,
    fn_expected_type_agree, Rs.eq_valueType]
  cases alookup id h.vars with
  | none => rfl
  | some existing =>
    -- the variable exists: the new value has its type (stored) or not (`ExpectedType`)
    by_cases hty : existing.type = v.type <;> simp [hty, Rs.insert, Rs.ret, Rs.MonadFlow.liftFlow, Except.map]
/-- … and a failing `set_value` leaves the context unchanged -/
theorem fn_HashMapContext_set_value_error (h : HashMapCtx) (id : Str) (v : Value) (e : Err)
    (he : (Gen.HashMapContext.set_value h id v).1 = .error e) : (Gen.HashMapContext.set_value h id v).2 = h := by
  simp only [Gen.HashMapContext.set_value, Rs.get_map, fn_ValueType_from_Value_agree, Rs.eq_valueType] at he ⊢
  cases hl : alookup id h.vars with
  | none => simp [hl] at he  -- a new variable: never fails
  | some existing =>
    -- an existing one fails only on a value of another type, before anything is written
    by_cases hty : existing.type = v.type <;> simp [hl, hty, Rs.ret, Rs.MonadFlow.liftFlow] at he ⊢
theorem fn_HashMapContext_set_value_ctx_agree (h : HashMapCtx) (id : Str) (v : Value) :
    Ctx.setValue (.hashMap h) id v =
      (Gen.HashMapContext.set_value h id v).1.map (fun _ => Ctx.hashMap (Gen.HashMapContext.set_value h id v).2) := by
  simp only [Ctx.setValue, fn_HashMapContext_set_value_agree]
  cases (Gen.HashMapContext.set_value h id v).1 <;> eq_refl

/-! ### the default methods of `ContextWithMutableVariables` / `ContextWithMutableFunctions` (kept by a context
that does not override them: the Model's `Ctx.noStorage`) -/
theorem fn_ContextWithMutableVariables_set_value_agree (h : HashMapCtx) (id : Str) (v : Value) :
    Ctx.setValue (.noStorage h) id v =
      (Gen.ContextWithMutableVariables.set_value (.noStorage h) id v).1.map
        (fun _ => (Gen.ContextWithMutableVariables.set_value (.noStorage h) id v).2) := rfl
theorem fn_ContextWithMutableVariables_set_value_unchanged (c : Ctx) (id : Str) (v : Value) :
    Gen.ContextWithMutableVariables.set_value c id v = (.error .contextNotMutable, c) := rfl
theorem fn_ContextWithMutableFunctions_set_function_agree (h : HashMapCtx) (id : Str) (f : UserFn) :
    Ctx.setFunction (.noStorage h) id f =
      (Gen.ContextWithMutableFunctions.set_function (.noStorage h) id f).1.map
        (fun _ => (Gen.ContextWithMutableFunctions.set_function (.noStorage h) id f).2) := rfl
theorem fn_ContextWithMutableFunctions_set_function_unchanged (c : Ctx) (id : Str) (f : UserFn) :
    Gen.ContextWithMutableFunctions.set_function c id f = (.error .contextNotMutable, c) := rfl

/-! ### `IterateVariablesContext`: an iterator is the list of the items it yields. For the `HashMapContext` the order is
the order of the Model's association list (`HashMap` iteration order is unspecified in Rust; the harness compares sorted). -/
theorem fn_EmptyContext_iter_variables_agree : Gen.EmptyContext.iter_variables () = Ctx.iterVariables .empty := rfl
theorem fn_EmptyContext_iter_variable_names_agree :
    Gen.EmptyContext.iter_variable_names () = Ctx.iterVariableNames .empty := rfl
theorem fn_EmptyContextWithBuiltinFunctions_iter_variables_agree :
    Gen.EmptyContextWithBuiltinFunctions.iter_variables () = Ctx.iterVariables .emptyWithBuiltins := rfl
theorem fn_EmptyContextWithBuiltinFunctions_iter_variable_names_agree :
    Gen.EmptyContextWithBuiltinFunctions.iter_variable_names () = Ctx.iterVariableNames .emptyWithBuiltins := rfl
theorem fn_HashMapContext_iter_variables_agree (h : HashMapCtx) :
    Gen.HashMapContext.iter_variables h = Ctx.iterVariables (.hashMap h) := by
  simp [Gen.HashMapContext.iter_variables, Ctx.iterVariables, Rs.iter, Rs.map]
theorem fn_HashMapContext_iter_variable_names_agree (h : HashMapCtx) :
    Gen.HashMapContext.iter_variable_names h = Ctx.iterVariableNames (.hashMap h) := by
  simp [Gen.HashMapContext.iter_variable_names, Ctx.iterVariableNames, Ctx.iterVariables, Rs.keys]

end Evalexpr.AgreeFn

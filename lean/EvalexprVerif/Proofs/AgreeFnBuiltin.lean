/-
Proofs/AgreeFnBuiltin.lean — `builtin_function` of src/function/builtin.rs as translated on this run
(`Generated/FnBuiltin.lean`: the dispatch on the name, the `simple_math!` / `int_function!` macro expansions, `float_is`, and
the closures) equals the Model's `builtinFunction` / `Builtin.call` (`Model/Builtin.lean`):

  `fn_builtin_function_agree : (Gen.builtin_function id).map (· arg) = (builtinFunction id).map (·.call arg)`

for every name and every argument value: the generated dispatch resolves exactly the 49 names of the Model's table
(`fn_builtin_<name>_agree`, one per name, by evaluating the dispatch on the literal name), and every generated closure
equals the Model's function on all arguments. The arms under `#[cfg(feature = "regex" | "rand")]` are not modelled and
are skipped by the translator (listed in the header of the generated file).

The case analysis of every arm is on what the Model itself inspects — the variant of the argument, the length of a tuple, the
answers of `asNumber`, `asInt`, `intIntoUsize`, … — never on the generated text; in the loops (`min`, `max`, `contains_any`,
`Rs.Flow.forIn_try`) one pass through the generated body unfolds the Model's recursive function once.
-/
import EvalexprVerif.Generated.FnBuiltin
import EvalexprVerif.Translate.Lemmas
import EvalexprVerif.Proofs.AgreeFnNumeric
import EvalexprVerif.Proofs.AgreeFnValue
import EvalexprVerif.Proofs.AgreeFnError

namespace Evalexpr.AgreeFn
open Evalexpr

/-- one dispatch arm: the dispatch is evaluated on the literal name (`h1`, by `rfl`), then the closure is compared with the Model's
function (`h2`). `h2` has a default proof, written in the statement: split the variant of the argument and compute. It is the
whole comparison for an arm of one argument, so such an arm reads `arm_of _ rfl` and its real argument is that default; every
other arm gives `h2` explicitly. -/
theorem arm_of {id : Str} {b : Builtin} (f : UserFn) (h1 : Gen.builtin_function id = some f)
    (h2 : ∀ arg, f arg = b.call arg := by intro arg; cases arg <;> eq_refl) (arg : Value) :
    (Gen.builtin_function id).map (· arg) = some (b.call arg) := by
  rw [h1]; exact congrArg some (h2 arg)

/-- an arm of two arguments (`simple_math!(f, 2)`, `int_function!(f, 2)`; `m` is the Model's function of that name, `acc` the
accessor it applies): anything but a tuple of two elements is refused alike by both sides; on `[x, y]` both read `x`, then `y` -/
macro "pair_arm" m:term:max acc:term:max : tactic => `(tactic| (
  intro arg
  show _ = $m _ arg
  cases arg
  case tuple t =>
    rcases t with _ | ⟨x, _ | ⟨y, _ | ⟨z, rest⟩⟩⟩
    case cons.cons.nil =>
      simp only [rs_exec, rs_agree, Rs.Function_new, $m:term, Value.asFixedLenTuple, Nat.reduceAdd, beq_self_eq_true, if_true]
      -- `[x, y]`: `x` is refused, or `y` is, or both are accepted
      cases $acc x <;> cases $acc y <;> eq_refl
    -- a tuple of 0, 1, or 3 and more elements: `ExpectedFixedLengthTuple`
    all_goals eq_refl
  -- not a tuple: `ExpectedTuple` on both sides
  all_goals eq_refl))

theorem fn_builtin_math_ln_agree : ∀ arg, (Gen.builtin_function cl!"math::ln").map (· arg) = some (Builtin.call .ln arg) :=
  arm_of _ rfl
theorem fn_builtin_math_log_agree : ∀ arg, (Gen.builtin_function cl!"math::log").map (· arg) = some (Builtin.call .log arg) :=
  arm_of _ rfl (by pair_arm simpleMath2 Value.asNumber)
theorem fn_builtin_math_log2_agree : ∀ arg, (Gen.builtin_function cl!"math::log2").map (· arg) = some (Builtin.call .log2 arg) :=
  arm_of _ rfl
theorem fn_builtin_math_log10_agree : ∀ arg, (Gen.builtin_function cl!"math::log10").map (· arg) = some (Builtin.call .log10 arg) :=
  arm_of _ rfl
theorem fn_builtin_math_exp_agree : ∀ arg, (Gen.builtin_function cl!"math::exp").map (· arg) = some (Builtin.call .exp arg) :=
  arm_of _ rfl
theorem fn_builtin_math_exp2_agree : ∀ arg, (Gen.builtin_function cl!"math::exp2").map (· arg) = some (Builtin.call .exp2 arg) :=
  arm_of _ rfl
theorem fn_builtin_math_pow_agree : ∀ arg, (Gen.builtin_function cl!"math::pow").map (· arg) = some (Builtin.call .pow arg) :=
  arm_of _ rfl (by pair_arm simpleMath2 Value.asNumber)
theorem fn_builtin_math_cos_agree : ∀ arg, (Gen.builtin_function cl!"math::cos").map (· arg) = some (Builtin.call .cos arg) :=
  arm_of _ rfl
theorem fn_builtin_math_acos_agree : ∀ arg, (Gen.builtin_function cl!"math::acos").map (· arg) = some (Builtin.call .acos arg) :=
  arm_of _ rfl
theorem fn_builtin_math_cosh_agree : ∀ arg, (Gen.builtin_function cl!"math::cosh").map (· arg) = some (Builtin.call .cosh arg) :=
  arm_of _ rfl
theorem fn_builtin_math_acosh_agree : ∀ arg, (Gen.builtin_function cl!"math::acosh").map (· arg) = some (Builtin.call .acosh arg) :=
  arm_of _ rfl
theorem fn_builtin_math_sin_agree : ∀ arg, (Gen.builtin_function cl!"math::sin").map (· arg) = some (Builtin.call .sin arg) :=
  arm_of _ rfl
theorem fn_builtin_math_asin_agree : ∀ arg, (Gen.builtin_function cl!"math::asin").map (· arg) = some (Builtin.call .asin arg) :=
  arm_of _ rfl
theorem fn_builtin_math_sinh_agree : ∀ arg, (Gen.builtin_function cl!"math::sinh").map (· arg) = some (Builtin.call .sinh arg) :=
  arm_of _ rfl
theorem fn_builtin_math_asinh_agree : ∀ arg, (Gen.builtin_function cl!"math::asinh").map (· arg) = some (Builtin.call .asinh arg) :=
  arm_of _ rfl
theorem fn_builtin_math_tan_agree : ∀ arg, (Gen.builtin_function cl!"math::tan").map (· arg) = some (Builtin.call .tan arg) :=
  arm_of _ rfl
theorem fn_builtin_math_atan_agree : ∀ arg, (Gen.builtin_function cl!"math::atan").map (· arg) = some (Builtin.call .atan arg) :=
  arm_of _ rfl
theorem fn_builtin_math_tanh_agree : ∀ arg, (Gen.builtin_function cl!"math::tanh").map (· arg) = some (Builtin.call .tanh arg) :=
  arm_of _ rfl
theorem fn_builtin_math_atanh_agree : ∀ arg, (Gen.builtin_function cl!"math::atanh").map (· arg) = some (Builtin.call .atanh arg) :=
  arm_of _ rfl
theorem fn_builtin_math_atan2_agree : ∀ arg, (Gen.builtin_function cl!"math::atan2").map (· arg) = some (Builtin.call .atan2 arg) :=
  arm_of _ rfl (by pair_arm simpleMath2 Value.asNumber)
theorem fn_builtin_math_sqrt_agree : ∀ arg, (Gen.builtin_function cl!"math::sqrt").map (· arg) = some (Builtin.call .sqrt arg) :=
  arm_of _ rfl
theorem fn_builtin_math_cbrt_agree : ∀ arg, (Gen.builtin_function cl!"math::cbrt").map (· arg) = some (Builtin.call .cbrt arg) :=
  arm_of _ rfl
theorem fn_builtin_math_hypot_agree : ∀ arg, (Gen.builtin_function cl!"math::hypot").map (· arg) = some (Builtin.call .hypot arg) :=
  arm_of _ rfl (by pair_arm simpleMath2 Value.asNumber)
theorem fn_builtin_floor_agree : ∀ arg, (Gen.builtin_function cl!"floor").map (· arg) = some (Builtin.call .floor arg) :=
  arm_of _ rfl
theorem fn_builtin_round_agree : ∀ arg, (Gen.builtin_function cl!"round").map (· arg) = some (Builtin.call .round arg) :=
  arm_of _ rfl
theorem fn_builtin_ceil_agree : ∀ arg, (Gen.builtin_function cl!"ceil").map (· arg) = some (Builtin.call .ceil arg) :=
  arm_of _ rfl
theorem fn_builtin_math_is_nan_agree : ∀ arg, (Gen.builtin_function cl!"math::is_nan").map (· arg) = some (Builtin.call .isNan arg) :=
  arm_of _ rfl
theorem fn_builtin_math_is_finite_agree : ∀ arg, (Gen.builtin_function cl!"math::is_finite").map (· arg) = some (Builtin.call .isFinite arg) :=
  arm_of _ rfl
theorem fn_builtin_math_is_infinite_agree : ∀ arg, (Gen.builtin_function cl!"math::is_infinite").map (· arg) = some (Builtin.call .isInfinite arg) :=
  arm_of _ rfl
theorem fn_builtin_math_is_normal_agree : ∀ arg, (Gen.builtin_function cl!"math::is_normal").map (· arg) = some (Builtin.call .isNormal arg) :=
  arm_of _ rfl
theorem fn_builtin_typeof_agree : ∀ arg, (Gen.builtin_function cl!"typeof").map (· arg) = some (Builtin.call .typeof arg) :=
  arm_of _ rfl
theorem fn_builtin_if_agree : ∀ arg, (Gen.builtin_function cl!"if").map (· arg) = some (Builtin.call .if_ arg) := by
  refine arm_of _ rfl fun arg => ?_
  cases arg
  case tuple t =>
    rcases t with _ | ⟨c, _ | ⟨a, _ | ⟨b, _ | ⟨d, rest⟩⟩⟩⟩
    case cons.cons.cons.nil =>
      cases c
      -- the condition is `false` or `true`
      case boolean c => cases c <;> eq_refl
      -- `[c, a, b]` with `c` not a boolean
      all_goals eq_refl
    -- a tuple of other than three elements
    all_goals eq_refl
  -- not a tuple: refused alike
  all_goals eq_refl
theorem fn_builtin_contains_agree : ∀ arg, (Gen.builtin_function cl!"contains").map (· arg) = some (Builtin.call .contains arg) := by
  refine arm_of _ rfl fun arg => ?_
  cases arg
  case tuple t =>
    rcases t with _ | ⟨a, _ | ⟨b, _ | ⟨c, rest⟩⟩⟩
    case cons.cons.nil =>
      cases a
      -- `b` is a scalar (looked up) or not (`TypeError`)
      case tuple a => cases b <;> eq_refl
      -- `[a, b]` with `a` not a tuple
      all_goals eq_refl
    -- a tuple of other than two elements
    all_goals eq_refl
  -- not a tuple: refused alike
  all_goals eq_refl
theorem fn_builtin_str_to_lowercase_agree : ∀ arg, (Gen.builtin_function cl!"str::to_lowercase").map (· arg) = some (Builtin.call .strToLowercase arg) :=
  arm_of _ rfl
theorem fn_builtin_str_to_uppercase_agree : ∀ arg, (Gen.builtin_function cl!"str::to_uppercase").map (· arg) = some (Builtin.call .strToUppercase arg) :=
  arm_of _ rfl
theorem fn_builtin_str_trim_agree : ∀ arg, (Gen.builtin_function cl!"str::trim").map (· arg) = some (Builtin.call .strTrim arg) :=
  arm_of _ rfl
theorem fn_builtin_str_from_agree : ∀ arg, (Gen.builtin_function cl!"str::from").map (· arg) = some (Builtin.call .strFrom arg) :=
  arm_of _ rfl
theorem fn_builtin_bitand_agree : ∀ arg, (Gen.builtin_function cl!"bitand").map (· arg) = some (Builtin.call .bitand arg) :=
  arm_of _ rfl (by pair_arm intFunction2 Value.asInt)
theorem fn_builtin_bitor_agree : ∀ arg, (Gen.builtin_function cl!"bitor").map (· arg) = some (Builtin.call .bitor arg) :=
  arm_of _ rfl (by pair_arm intFunction2 Value.asInt)
theorem fn_builtin_bitxor_agree : ∀ arg, (Gen.builtin_function cl!"bitxor").map (· arg) = some (Builtin.call .bitxor arg) :=
  arm_of _ rfl (by pair_arm intFunction2 Value.asInt)
theorem fn_builtin_bitnot_agree : ∀ arg, (Gen.builtin_function cl!"bitnot").map (· arg) = some (Builtin.call .bitnot arg) :=
  arm_of _ rfl

/-! the shifts: `bit_shift_left` / `bit_shift_right` are the Model's `<<<` / `>>>` (AgreeFnNumeric) -/
theorem fn_builtin_shl_agree : ∀ arg, (Gen.builtin_function cl!"shl").map (· arg) = some (Builtin.call .shl arg) :=
  arm_of _ rfl (by pair_arm intFunction2 Value.asInt)
theorem fn_builtin_shr_agree : ∀ arg, (Gen.builtin_function cl!"shr").map (· arg) = some (Builtin.call .shr arg) :=
  arm_of _ rfl (by pair_arm intFunction2 Value.asInt)

/-! `math::abs`: the integer `abs` is abstracted (a variable) before anything is reduced (kernel note in Proofs/ValueOps.lean) -/
def absWith (A : Int64 → Res Int64) : Value → Res Value
  | .float f => .ok (.float f.abs)
  | .int i => (A i).map .int
  | v => .error (.expectedNumber v)

theorem abs_arm (A : Int64 → Res Int64) (hA : ∀ n, Gen.i64.abs n = A n) :
    ∃ f, Gen.builtin_function cl!"math::abs" = some f ∧ ∀ arg, f arg = absWith A arg := by
  refine ⟨_, rfl, fun arg => ?_⟩
  simp only [hA]
  -- `rfl`: a float, and everything that is not a number; the second alternative is the `Int` arm, where `A x` is split
  cases arg <;> first
    | rfl
    | (rename_i x; show Rs.Flow.run (Rs.try (A x) >>= _) = Except.map _ (A x); generalize A x = r; cases r <;> eq_refl)

theorem fn_builtin_math_abs_agree : ∀ arg, (Gen.builtin_function cl!"math::abs").map (· arg) = some (Builtin.call .abs arg) := by
  intro arg
  obtain ⟨f, hf, h⟩ := abs_arm checkedAbs fn_i64_abs_agree
  rw [hf]
  show some (f arg) = _
  rw [h]
  cases arg <;> simp only [absWith, Builtin.call]

theorem fn_builtin_len_agree : ∀ arg, (Gen.builtin_function cl!"len").map (· arg) = some (Builtin.call .len arg) := by
  refine arm_of _ rfl fun arg => ?_
  -- neither a string nor a tuple: `TypeError` on both sides (`rfl`); a string and a tuple go the same way
  cases arg <;> try rfl
  all_goals
    show _ = Except.map Value.int (intFromUsize _)
    simp only [rs_exec, rs_agree, Rs.Function_new, Value.asString, Value.asTuple]
    cases intFromUsize _ <;> eq_refl

/-- `Ord::min` / `Ord::max` on the int type are the Model's `i64min` / `i64max` -/
theorem min_i64 (a b : Int64) : (Rs.min a b : Int64) = i64min a b := by
  show (if a.toInt > b.toInt then b else a) = if a.toInt ≤ b.toInt then a else b
  by_cases h : a.toInt ≤ b.toInt
  · rw [if_pos h, if_neg (by omega)]
  · rw [if_neg h, if_pos (by omega)]
theorem max_i64 (a b : Int64) : (Rs.max a b : Int64) = i64max a b := by
  show (if a.toInt > b.toInt then a else b) = if b.toInt ≥ a.toInt then b else a
  by_cases h : b.toInt ≥ a.toInt
  · rw [if_pos h, if_neg (by omega)]
  · rw [if_neg h, if_pos (by omega)]
/-- on the float type they are the translated `EvalexprFloat::min` / `max` -/
theorem min_f64 (a b : Float) : (Rs.min a b : Float) = F64.fmin a b := rfl
theorem max_f64 (a b : Float) : (Rs.max a b : Float) = F64.fmax a b := rfl

/-- `min` / `max` (`minMax fi ff pick` in the Model): the loop is the Model's `minMaxFold fi ff`, one pass unfolds it once, over the
Model's list of arguments (the `congrArg` finds the translated list by unification); what follows the loop looks at the two accumulators -/
macro "minmax_arm" fi:term "," ff:term "," pick:term : tactic => `(tactic| (
  refine arm_of _ rfl fun arg => ?_
  show _ = minMax $fi $ff $pick arg
  simp only [Rs.Function_new, min_i64, min_f64, max_i64, max_f64]
  rw [Rs.Flow.forIn_try (fun l st => minMaxFold $fi $ff l st.1 st.2) (fun _ => rfl),
    congrArg (fun l => minMaxFold $fi $ff l none none) (?_ : _ = minMaxArgs arg), minMax]
  · -- after the loop: it failed, or each of the two accumulators is empty or not
    generalize minMaxFold _ _ _ none none = r
    rcases r with _ | ⟨_ | i, _ | f⟩ <;> eq_refl
  · -- the list of arguments, by the variant of the argument
    cases arg <;> eq_refl
  · -- one pass through the generated loop body, by the variant of the element
    rintro x l ⟨mi, mf⟩
    cases x <;> eq_refl))

theorem fn_builtin_min_agree : ∀ arg, (Gen.builtin_function cl!"min").map (· arg) = some (Builtin.call .min arg) := by
  minmax_arm i64min, F64.fmin, (fun i f => i < f)
theorem fn_builtin_max_agree : ∀ arg, (Gen.builtin_function cl!"max").map (· arg) = some (Builtin.call .max arg) := by
  minmax_arm i64max, F64.fmax, (fun i f => i > f)

theorem fn_builtin_contains_any_agree :
    ∀ arg, (Gen.builtin_function cl!"contains_any").map (· arg) = some (Builtin.call .containsAny arg) := by
  refine arm_of _ rfl fun arg => ?_
  -- refused alike (`rfl`): not a tuple; a tuple of other than two elements; `[x, y]` with `x` not a tuple; with `y` not a tuple
  cases arg
  case tuple t =>
    rcases t with _ | ⟨x, _ | ⟨y, _ | ⟨z, rest⟩⟩⟩
    case cons.cons.nil =>
      cases x
      case tuple a =>
        cases y
        case tuple b =>
          show _ = Except.map Value.boolean (containsAnyLoop a b false)
          simp only [rs_exec, rs_agree, Rs.Function_new, Value.asFixedLenTuple, Nat.reduceAdd, beq_self_eq_true, if_true]
          rw [Rs.Flow.forIn_try (containsAnyLoop a) (fun _ => rfl)]
          · -- after the loop: it failed or it did not
            cases containsAnyLoop a b false <;> eq_refl
          · -- one pass through the generated loop body: a non-scalar element is refused (`rfl`); for a scalar, whether `a` contains it
            intro x l acc
            have hc : ∀ v, Rs.contains a v = tupleContains a v := fun _ => rfl
            cases x <;> first
              | rfl
              | (simp only [containsAnyLoop, isScalar, if_true, hc]; cases tupleContains a _ <;> cases acc <;> eq_refl)
        all_goals eq_refl
      all_goals eq_refl
    all_goals eq_refl
  all_goals eq_refl

theorem fn_builtin_str_substring_agree :
    ∀ arg, (Gen.builtin_function cl!"str::substring").map (· arg) = some (Builtin.call .strSubstring arg) := by
  refine arm_of _ rfl fun arg => ?_
  show _ = substring arg
  -- refused alike: not a tuple; a tuple of fewer than two or more than three elements
  cases arg <;> try rfl
  rename_i t
  rcases t with _ | ⟨x, _ | ⟨y, _ | ⟨z, _ | ⟨w, rest⟩⟩⟩⟩ <;> try rfl
  -- `[x, y]` and `[x, y, z]`: the subject `x` is a string, the start `y` an int that fits a `usize`, or the step's error ends both
  all_goals
    simp only [rs_exec, rs_agree, Rs.Function_new, substring, Value.asRangedLenTuple, Rs.map_err, List.getElem?_cons_succ,
      List.getElem?_cons_zero, List.getElem?_nil, Nat.reduceAdd, Nat.reduceLeDiff, decide_true, Bool.and_self, if_true]
    rcases x.asString with _ | subject <;> try rfl
    rcases y.asInt with _ | start <;> try rfl
    dsimp only
    rcases intIntoUsize start with _ | start <;> try rfl
    simp only [rs_exec]
  -- `[x, y, z]`: the same for the end `z` (for `[x, y]` the end is the length of the subject)
  case' tuple.cons.cons.cons.nil =>
    rcases z.asInt with _ | e <;> try rfl
    dsimp only
    rcases intIntoUsize e with _ | e <;> try rfl
    simp only [rs_exec]
  all_goals
    have hg : ∀ a b : Nat, Rs.gt a b = decide (b < a) := fun _ _ => rfl
    simp only [hg]
    -- the bounds are out of order or beyond the subject (`OutOfBoundsAccess`), or the slice falls on character boundaries or not
    split
    · rfl
    · show Rs.ok_or (Rs.map (sliceBytes _ _ _) _) _ = _
      cases sliceBytes subject start _ <;> eq_refl

theorem fn_builtin_arms : ∀ p ∈ builtinTable, ∀ arg, (Gen.builtin_function p.1).map (· arg) = some (p.2.call arg) := by
  unfold builtinTable
  simp only [List.forall_mem_cons]
  exact ⟨fn_builtin_math_ln_agree, fn_builtin_math_log_agree, fn_builtin_math_log2_agree, fn_builtin_math_log10_agree, fn_builtin_math_exp_agree, fn_builtin_math_exp2_agree, fn_builtin_math_pow_agree, fn_builtin_math_cos_agree, fn_builtin_math_acos_agree, fn_builtin_math_cosh_agree, fn_builtin_math_acosh_agree, fn_builtin_math_sin_agree, fn_builtin_math_asin_agree, fn_builtin_math_sinh_agree, fn_builtin_math_asinh_agree, fn_builtin_math_tan_agree, fn_builtin_math_atan_agree, fn_builtin_math_tanh_agree, fn_builtin_math_atanh_agree, fn_builtin_math_atan2_agree, fn_builtin_math_sqrt_agree, fn_builtin_math_cbrt_agree, fn_builtin_math_hypot_agree, fn_builtin_floor_agree, fn_builtin_round_agree, fn_builtin_ceil_agree, fn_builtin_math_is_nan_agree, fn_builtin_math_is_finite_agree, fn_builtin_math_is_infinite_agree, fn_builtin_math_is_normal_agree, fn_builtin_math_abs_agree, fn_builtin_typeof_agree, fn_builtin_min_agree, fn_builtin_max_agree, fn_builtin_if_agree, fn_builtin_contains_agree, fn_builtin_contains_any_agree, fn_builtin_len_agree, fn_builtin_str_to_lowercase_agree, fn_builtin_str_to_uppercase_agree, fn_builtin_str_trim_agree, fn_builtin_str_from_agree, fn_builtin_str_substring_agree, fn_builtin_bitand_agree, fn_builtin_bitor_agree, fn_builtin_bitxor_agree, fn_builtin_bitnot_agree, fn_builtin_shl_agree, fn_builtin_shr_agree, fun _ h => absurd h List.not_mem_nil⟩

theorem fn_builtin_none (id : Str) (h : ∀ p ∈ builtinTable, ¬ p.1 = id) : Gen.builtin_function id = none := by
  unfold builtinTable at h
  simp only [List.forall_mem_cons] at h
  -- `↓reduceIte`: a refuted test is reduced before simp looks into its closure
  delta Gen.builtin_function
  simp only [Rs.eq_str, h, ↓reduceIte]

theorem fn_builtin_function_agree (id : Str) (arg : Value) :
    (Gen.builtin_function id).map (· arg) = (builtinFunction id).map (·.call arg) := by
  unfold builtinFunction
  cases hf : builtinTable.find? (fun p => p.1 == id) with
  | some p =>
    -- a row of the Model's table: its arm
    have hm := List.mem_of_find?_eq_some hf
    have hk : p.1 = id := by simpa using List.find?_some hf
    subst hk
    rw [fn_builtin_arms p hm arg]; rfl
  | none =>
    -- a name outside the table
    rw [fn_builtin_none id (fun p hp => by simpa using List.find?_eq_none.1 hf p hp)]; rfl

theorem fn_builtin_function_eq (id : Str) : Gen.builtin_function id = (builtinFunction id).map Builtin.call := by
  have h := fn_builtin_function_agree id
  -- both sides resolve the name or neither does (`h` at any argument refutes the mixed cases); if both, to equal functions
  cases hg : Gen.builtin_function id <;> cases hm : builtinFunction id <;> simp only [hg, hm, Option.map] at h ⊢
  · exact absurd (h .empty) (by simp)
  · exact absurd (h .empty) (by simp)
  · exact congrArg some (funext fun a => Option.some.inj (h a))

end Evalexpr.AgreeFn

/-
Proofs/AgreeFnOperator.lean — `Operator::eval` and `Operator::eval_mut` as translated from
src/operator/mod.rs on this run (`Generated/FnOperator.lean`, by /verif/translate_fn.py) equal the
Model's `Operator.eval` / `Operator.evalMut` for ALL operators, argument lists and states.

Every proof first fixes the operator, which reduces the `match self` of the generated body to one arm. The arms that
do not look at the context then compute: the shape of the argument list (length 0, 1, 2, ≥ 3) and the value variants
are split and both sides reduce to the same normal form (`rfl`). The arms that observe the state are executed with
the Prelude lemmas (`rs_exec`), translated callees become the Model's (`rs_agree`), and the case analysis follows what
the Model's context answers, in the order the code asks: `getValue`, `userFn`, the user function's result,
`builtinsDisabled`, `builtinFunction`, `setValue`. None of this mentions the syntactic shape of the Rust bodies.
-/
import EvalexprVerif.Generated.FnOperator
import EvalexprVerif.Translate.Lemmas
import EvalexprVerif.Proofs.AgreeFnError
import EvalexprVerif.Proofs.AgreeFnValue
import EvalexprVerif.Proofs.AgreeFnNumeric
import EvalexprVerif.Proofs.AgreeFnBuiltin
import EvalexprVerif.Proofs.EvalOps

namespace Evalexpr.AgreeFn
open Evalexpr

/-- the arms of `Operator::eval` that do not look at the context -/
theorem eval_pure_arms (op : Operator) (h : Spec.Operator.isPure op = true) (args : List Value) (s : St) :
    Gen.Operator.eval op args s = (op.evalPure args, s) := by
  -- `VariableIdentifierRead` and `FunctionIdentifier` are not pure (`h`); every other operator is one goal
  cases op <;> try (cases h; done)
  -- the translated callees that `rfl` cannot compute on symbolic arguments are replaced by the Model's first
  all_goals unfold Gen.Operator.eval
  all_goals simp only [Operator.evalPure, fn_i64_checked_add_agree, fn_i64_checked_sub_agree,
    fn_i64_checked_mul_agree, fn_i64_checked_div_agree, fn_i64_checked_rem_agree, fn_i64_checked_neg_agree, fn_f64_pow_agree]
  -- the argument list: empty, `[a]`, `[a, b]`, three or more
  all_goals rcases args with _ | ⟨a, _ | ⟨b, _ | ⟨c, rest⟩⟩⟩
  -- the operators that inspect their arguments, on a list of the right length: the variant of `a` decides (a type error, or a
  -- unary operator), or the variants of `a` and `b` together where `a` is of a type the operator takes
  case neg.cons.nil | not.cons.nil => cases a <;> eq_refl
  case sub.cons.cons.nil | mul.cons.cons.nil | div.cons.cons.nil | mod.cons.cons.nil | exp.cons.cons.nil =>
    cases a
    case int | float => cases b <;> eq_refl
    all_goals eq_refl
  case add.cons.cons.nil | gt.cons.cons.nil | lt.cons.cons.nil | geq.cons.cons.nil | leq.cons.cons.nil =>
    cases a
    case string | int | float => cases b <;> eq_refl
    all_goals eq_refl
  case and.cons.cons.nil | or.cons.cons.nil =>
    cases a
    case boolean => cases b <;> eq_refl
    all_goals eq_refl
  -- `rfl` at once: a list of the wrong length for the operator (both sides answer `WrongOperatorArgumentAmount`) and the arms
  -- that do not inspect their arguments (`RootNode`, `Eq`, `Neq`, `Tuple`, `Chain`, constants, the assignments)
  all_goals eq_refl

theorem eval_varRead (id : Str) (args : List Value) (s : St) :
    Gen.Operator.eval (.varRead id) args s = Evalexpr.Operator.eval (.varRead id) args s := by
  match args with
  | [] =>
    unfold Gen.Operator.eval
    simp only [Operator.eval, rs_exec, rs_agree]
    cases s.ctx.getValue id <;> eq_refl
  | _ :: _ => rfl

/-- `FunctionIdentifier`: the context's function first; the builtin table is consulted only when the context answers
`FunctionIdentifierNotFound` and has not disabled the builtins -/
theorem eval_fn (id : Str) (args : List Value) (s : St) :
    Gen.Operator.eval (.fn id) args s = Evalexpr.Operator.eval (.fn id) args s := by
  match args with
  | [] | _ :: _ :: _ => rfl
  | [a] =>
    unfold Gen.Operator.eval
    simp only [Operator.eval, callFunction, rs_exec, rs_agree, fn_builtin_function_eq]
    cases s.ctx.userFn id with
    | none =>
      -- the context has no such function: on to the builtins, unless disabled; the name is in the table or not
      cases s.ctx.builtinsDisabled <;> cases builtinFunction id <;> eq_refl
    | some f =>
      dsimp only
      cases f a with
      | ok v => rfl
      | error e =>
        -- every error of the user function is the result (`rfl`), except `FunctionIdentifierNotFound`: on to the builtins as above
        cases e <;> first
          | rfl
          | (simp only [rs_exec]; cases s.ctx.builtinsDisabled <;> cases builtinFunction id <;> eq_refl)

theorem fn_Operator_eval_agree (op : Operator) (args : List Value) (s : St) :
    Gen.Operator.eval op args s = Evalexpr.Operator.eval op args s := by
  cases op
  case varRead id => exact eval_varRead id args s
  case fn id => exact eval_fn id args s
  all_goals exact eval_pure_arms _ rfl args s

theorem fn_Operator_eval_eq : Gen.Operator.eval = Evalexpr.Operator.eval :=
  funext fun op => funext fun args => funext fun s => fn_Operator_eval_agree op args s

theorem evalMut_assign (args : List Value) (s : St) :
    Gen.Operator.eval_mut .assign args s = Evalexpr.Operator.evalMut .assign args s := by
  -- anything but `[a, b]`: `WrongOperatorArgumentAmount` on both sides
  rcases args with _ | ⟨a, _ | ⟨b, _ | ⟨c, rest⟩⟩⟩ <;> try rfl
  unfold Gen.Operator.eval_mut
  simp only [Operator.evalMut, rs_exec, rs_agree, Nat.reduceAdd]
  cases a.asString with
  | error e => rfl
  | ok t =>
    dsimp only
    -- `set_value` fails or succeeds
    rcases setValue s t b with ⟨_ | _, _⟩ <;> eq_refl

/-- the op-assign arm, for one operator `op` with base operator `base`: read the variable, apply `base`, store -/
theorem evalMut_opAssign (op base : Operator) (hb : op.assignBase = some base) (args : List Value) (s : St) :
    Gen.Operator.eval_mut op args s = Evalexpr.Operator.evalMut op args s := by
  -- the eight operators with a base, one goal each; the same steps for all of them
  cases op <;> cases hb
  all_goals
    rcases args with _ | ⟨a, _ | ⟨b, _ | ⟨c, rest⟩⟩⟩
    case cons.cons.nil =>
      unfold Gen.Operator.eval_mut Operator.evalMut
      simp only [Operator.assignBase, fn_Operator_eval_eq, rs_exec, rs_agree, Nat.reduceAdd]
      -- each step either ends the evaluation with its error (`rfl`) or goes on: the target `a` is a string `t`,
      cases a.asString with
      | error e => rfl
      | ok t =>
        dsimp only
        -- the variable `t` is read (`left`),
        rcases Operator.eval (.varRead t) [] s with ⟨e | left, s1⟩
        · rfl
        dsimp only
        -- the base operator is applied to `left` and `b` (`result`),
        rcases Operator.eval _ [left, b] s1 with ⟨e | result, s2⟩
        · rfl
        dsimp only
        -- and `result` is stored
        rcases setValue s2 t result with ⟨_ | _, _⟩ <;> eq_refl
    -- anything but `[a, b]`: `WrongOperatorArgumentAmount` on both sides
    all_goals eq_refl

/-- not an assignment: the translated `eval_mut` hands over to `eval`, like the Model's (`Spec.evalMut_of_not_assign`) -/
theorem eval_mut_of_not_assign (op : Operator) (h : Spec.Operator.isAssignKind op = false) (args : List Value) (s : St) :
    Gen.Operator.eval_mut op args s = Gen.Operator.eval op args s := by
  -- an assignment operator is excluded by `h`; for every other operator `eval_mut` falls through to its last arm
  cases op <;> first | (cases h; done) | exact Rs.M.run_call _ _

theorem fn_Operator_eval_mut_agree (op : Operator) (args : List Value) (s : St) :
    Gen.Operator.eval_mut op args s = Evalexpr.Operator.evalMut op args s := by
  cases hk : Spec.Operator.isAssignKind op
  · rw [eval_mut_of_not_assign op hk, Spec.evalMut_of_not_assign op args s hk]
    exact fn_Operator_eval_agree op args s
  · cases op
    case assign => exact evalMut_assign args s
    case addAssign | subAssign | mulAssign | divAssign | modAssign | expAssign | andAssign | orAssign =>
      exact evalMut_opAssign _ _ rfl args s
    all_goals cases hk

theorem fn_Operator_eval_mut_eq : Gen.Operator.eval_mut = Evalexpr.Operator.evalMut :=
  funext fun op => funext fun args => funext fun s => fn_Operator_eval_mut_agree op args s

end Evalexpr.AgreeFn

/-
Proofs/LitFloatParse.lean — C06 helpers: what `F64.parseBits` / `F64.parse` accept, in both
directions: a mantissa followed by an exponent part parses to `magOf …` (`parseBits_mantissa`), and
whatever `F64.parseMagnitude` accepts is, apart from three names, of that form
(`parseMagnitude_accepts`). Hence the float literals among the sign-free words, and the only way a
word, a sign and a third piece can join to a float (`parse_join`).
-/
import EvalexprVerif.Proofs.LitParts

namespace Evalexpr.Spec
open Evalexpr

/-- the digits of a mantissa without the dot (as in `floatLitValue`) -/
def mantDigits (m : Str) : Str := m.takeWhile F64.isDigit ++ (m.dropWhile F64.isDigit).drop 1
/-- the number of fraction digits of a mantissa (as in `floatLitValue`) -/
def mantFracLen (m : Str) : Nat := ((m.dropWhile F64.isDigit).drop 1).length

theorem head_not_sign_of_startsLikeNumber (w : Str) (h : startsLikeNumber w = true) :
    ∀ c r, w = c :: r → ¬ isSignChar c = true := by
  rintro c r rfl
  exact not_isSignChar_of_digit_or_dot c (by simpa [startsLikeNumber] using h)

theorem mant_digits (m : Str) (hd : m.all F64.isDigit = true) :
    mantDigits m = m ∧ mantFracLen m = 0 := by
  obtain ⟨h1, h2⟩ := takeWhile_dropWhile_self _ m hd
  simp [mantDigits, mantFracLen, h1, h2]

theorem mant_dot (ip fp : Str) (hip : ip.all F64.isDigit = true) :
    mantDigits (ip ++ '.' :: fp) = ip ++ fp ∧ mantFracLen (ip ++ '.' :: fp) = fp.length := by
  obtain ⟨h1, h2⟩ := takeWhile_dropWhile_append _ ip ('.' :: fp) hip (dot_not_digit _)
  simp [mantDigits, mantFracLen, h1, h2]

theorem parseBits_mantissa (m tail : Str) (hm : isMantissa m = true)
    (ht : ∀ c r, tail = c :: r → F64.isDigit c = false ∧ c ≠ '.') :
    F64.parseBits (m ++ tail) = (expoOf tail).map (magOf (mantDigits m) (mantFracLen m)) := by
  have hs := startsLikeNumber_mantissa m tail hm
  obtain ⟨h1, h2⟩ := not_inf_nan_of_startsLikeNumber _ hs
  rw [parseBits_unsigned _ (head_not_sign_of_startsLikeNumber _ hs), parseMagnitude_eq _ h1 h2]
  rcases isMantissa_cases m hm with ⟨hne, hd⟩ | ⟨ip, fp, rfl, hip, hfp, hne⟩
  · obtain ⟨h3, h4⟩ := takeWhile_dropWhile_append _ m tail hd (fun c r h => (ht c r h).1)
    obtain ⟨h5, h6⟩ := mant_digits m hd
    rw [h3, h4, dotSplit_nodot tail (fun c r h => (ht c r h).2), h5, h6, List.isEmpty_eq_false_iff.2 hne,
      List.append_nil]
    rfl
  · obtain ⟨h3, h4⟩ := takeWhile_dropWhile_append _ ip ('.' :: (fp ++ tail)) hip (dot_not_digit _)
    obtain ⟨h5, h6⟩ := mant_dot ip fp hip
    rw [List.append_assoc, List.cons_append, h3, h4,
      dotSplit_dot fp tail hfp (fun c r h => (ht c r h).1), h5, h6, (isEmpty_and_isEmpty ip fp).2 hne]
    rfl

theorem e_not_digit_or_dot (e : Char) (r : Str) (he : e = 'e' ∨ e = 'E') :
    ∀ c r', e :: r = c :: r' → F64.isDigit c = false ∧ c ≠ '.' := by
  intro c r' h
  simp only [List.cons.injEq] at h
  rw [← h.1]
  rcases he with rfl | rfl <;> decide

theorem parseBits_plain (m : Str) (hm : isMantissa m = true) :
    F64.parseBits m = some (magOf (mantDigits m) (mantFracLen m) 0) := by
  have := parseBits_mantissa m [] hm (by intro c r h; cases h)
  rwa [List.append_nil] at this

theorem parseBits_exp (m ex : Str) (e : Char) (hm : isMantissa m = true) (he : e = 'e' ∨ e = 'E')
    (hex : isDigits ex = true) :
    F64.parseBits (m ++ e :: ex) = some (magOf (mantDigits m) (mantFracLen m) (decValue ex)) := by
  rw [parseBits_mantissa m _ hm (e_not_digit_or_dot e ex he), expoOf_unsigned e ex he hex]; rfl

theorem parseBits_exp_signed (m ex : Str) (e s : Char) (hm : isMantissa m = true)
    (he : e = 'e' ∨ e = 'E') (hs : s = '+' ∨ s = '-') (hex : isDigits ex = true) :
    F64.parseBits (m ++ e :: s :: ex) = some (magOf (mantDigits m) (mantFracLen m)
      (if (s == '-') = true then -(decValue ex : Int) else decValue ex)) := by
  have hsp : signSplit (s :: ex) = (s == '-', ex) := by rcases hs with rfl | rfl <;> rfl
  rw [parseBits_mantissa m _ hm (e_not_digit_or_dot e _ he),
    expoOf_signed e _ he (by rw [hsp]; exact hex), hsp]; rfl

theorem parseBits_isFloatLit (w : Str) (h : isFloatLit w = true) : ∃ b, F64.parseBits w = some b := by
  rcases isFloatLit_cases w h with hm | ⟨m, e, ex, rfl, he, hm, hex⟩
  · exact ⟨_, parseBits_plain w hm⟩
  · exact ⟨_, parseBits_exp m ex e hm he hex⟩

theorem startsLikeNumber_isFloatLit (w : Str) (h : isFloatLit w = true) :
    startsLikeNumber w = true := by
  rcases isFloatLit_cases w h with hm | ⟨m, e, ex, rfl, he, hm, hex⟩
  · have := startsLikeNumber_mantissa w [] hm; rwa [List.append_nil] at this
  · exact startsLikeNumber_mantissa m _ hm

theorem parseMagnitude_accepts (cs : Str) (h : F64.parseMagnitude cs ≠ none) :
    (cs.map F64.lowerAscii = cl!"inf" ∨ cs.map F64.lowerAscii = cl!"infinity" ∨
      cs.map F64.lowerAscii = cl!"nan") ∨
      ∃ m x, cs = m ++ x ∧ isMantissa m = true ∧ expoOf x ≠ none := by
  cases h1 : (cs.map F64.lowerAscii == cl!"inf" || cs.map F64.lowerAscii == cl!"infinity")
  case true =>
    simp only [Bool.or_eq_true, beq_iff_eq] at h1
    rcases h1 with h1 | h1
    · exact .inl (.inl h1)
    · exact .inl (.inr (.inl h1))
  cases h2 : (cs.map F64.lowerAscii == cl!"nan")
  case true => exact .inl (.inr (.inr (by simpa using h2)))
  right
  rw [parseMagnitude_eq cs h1 h2] at h
  have hcs : cs = cs.takeWhile F64.isDigit ++ cs.dropWhile F64.isDigit := by simp
  have hI : (cs.takeWhile F64.isDigit).all F64.isDigit = true := List.all_takeWhile
  generalize cs.takeWhile F64.isDigit = I at *
  generalize cs.dropWhile F64.isDigit = D at *
  split at h
  · exact absurd rfl h  -- neither integer nor fraction digits
  rename_i hne
  have hx : expoOf (dotSplit D).2 ≠ none := by
    intro hx; rw [hx] at h; exact h rfl
  rcases dotSplit_cases D with ⟨r, rfl, hd⟩ | hd <;> rw [hd] at hne hx
  · -- a dot after the integer digits: the mantissa is `I.F`
    refine ⟨I ++ '.' :: r.takeWhile F64.isDigit, r.dropWhile F64.isDigit, by rw [hcs]; simp, ?_, hx⟩
    exact isMantissa_dot I _ hI List.all_takeWhile
      ((isEmpty_and_isEmpty _ _).1 (Bool.eq_false_iff.2 hne))
  · -- no dot: the mantissa is `I`
    exact ⟨I, D, hcs, isMantissa_digits I hI (by simpa using hne), hx⟩

theorem isFloatLit_of_parse (w : Str) (hs : ∀ c ∈ w, ¬ isSignChar c = true)
    (hn : startsLikeNumber w = true) (h : F64.parse w ≠ none) : isFloatLit w = true := by
  have hpm := parseMagnitude_of_parse w (head_not_sign_of_startsLikeNumber w hn) h
  obtain ⟨h1, h2⟩ := not_inf_nan_of_startsLikeNumber w hn
  rcases parseMagnitude_accepts w hpm with hsp | ⟨m, x, rfl, hm, hx⟩
  · rcases hsp with hsp | hsp | hsp <;> simp [hsp] at h1 h2  -- no name starts like a number
  · rcases expoOf_shape x hx with rfl | ⟨e, r, rfl, he, hr | ⟨sg, r', rfl, hsg, -⟩⟩
    · rw [List.append_nil]; exact isFloatLit_of_mantissa _ hm  -- no exponent part
    · exact isFloatLit_of_exp _ r e hm he hr  -- `e` and digits
    · exact absurd hsg (hs sg (by simp))  -- a signed exponent, in a sign-free word

/-- a list is cut at its first element with `q` in one way only: the cut is `takeWhile` / `dropWhile` -/
theorem split_unique {α : Type} (q : α → Bool) {a a' : List α} {x x' : α} {b b' : List α}
    (h : a ++ x :: b = a' ++ x' :: b') (ha : ∀ c ∈ a, ¬ q c = true) (ha' : ∀ c ∈ a', ¬ q c = true)
    (hx : q x = true) (hx' : q x' = true) : a = a' ∧ x :: b = x' :: b' := by
  have h1 := takeWhile_dropWhile_append (fun c => !q c) a (x :: b)
    (List.all_eq_true.2 fun c hc => by simpa using ha c hc) (by rintro c r ⟨⟩; simp [hx])
  have h2 := takeWhile_dropWhile_append (fun c => !q c) a' (x' :: b')
    (List.all_eq_true.2 fun c hc => by simpa using ha' c hc) (by rintro c r ⟨⟩; simp [hx'])
  rw [h] at h1
  exact ⟨h1.1.symm.trans h2.1, h1.2.symm.trans h2.2⟩

/-- joining a word, a sign and a third piece parses as a float only for `<mantissa>e`, sign,
digits: the sign can only be the one of the exponent part, and it is the first sign on both sides -/
theorem parse_join (w d : Str) (s : Char) (hs : isSignChar s = true) (hw : isWord w = true)
    (h : F64.parse (w ++ s :: d) ≠ none) :
    looksLikeMantissaE w = true ∧ isDigits d = true := by
  have hwc := not_isSignChar_of_isWord w hw
  have hm := parseMagnitude_of_parse _ (fun c r e => by
    cases w with
    | nil => cases hw
    | cons c' w' => cases e; exact hwc c (by simp)) h
  have hsmem : s ∈ w ++ s :: d := by simp
  rcases parseMagnitude_accepts _ hm with hsp | ⟨m, x, hcs, hmant, hexpo⟩
  · -- `inf`, `infinity`, `nan` contain no sign
    have : s ∈ (w ++ s :: d).map F64.lowerAscii := by
      have := List.mem_map_of_mem (f := F64.lowerAscii) hsmem
      rwa [lowerAscii_sign s hs] at this
    rcases (isSignChar_iff s).1 hs with rfl | rfl <;> rcases hsp with hsp | hsp | hsp <;>
      rw [hsp] at this <;> simp at this
  · have hpre := mantissa_chars m hmant
    rcases expoOf_shape x hexpo with rfl | ⟨e, r, rfl, he, hr | ⟨sg, r', rfl, hsg, hr'⟩⟩
    · -- no exponent part: all of `w ++ s :: d` is a mantissa, which has no sign
      rw [List.append_nil] at hcs
      rw [hcs] at hsmem
      exact absurd hs (not_isSignChar_of_numChar s (.inl (hpre s hsmem)))
    · -- `e` and digits: no sign either
      rw [hcs] at hsmem
      simp only [List.mem_append, List.mem_cons] at hsmem
      refine absurd hs (not_isSignChar_of_numChar s ?_)
      rcases hsmem with h | h | h
      · exact .inl (hpre s h)
      · exact .inr (h ▸ he)
      · exact .inl (.inl (List.all_eq_true.1 ((isDigits_iff r).1 hr).2 s h))
    · -- `e`, the sign `sg` and digits: `sg` is `s`, so `w` is `m ++ [e]` and `d` the digits
      have hcs' : w ++ s :: d = (m ++ [e]) ++ sg :: r' := by rw [hcs]; simp
      obtain ⟨rw1, rd⟩ := split_unique isSignChar hcs' hwc
        (by
          intro c hc
          simp only [List.mem_append, List.mem_singleton] at hc
          apply not_isSignChar_of_numChar
          rcases hc with hc | rfl
          · exact .inl (hpre c hc)
          · exact .inr he) hs hsg
      cases rd
      subst rw1
      refine ⟨?_, hr'⟩
      obtain ⟨p0, m', rfl, hp0⟩ := mantissa_head m hmant
      have hstart : (F64.isDigit p0 || p0 == '.') = true := by rcases hp0 with h | h <;> simp [h]
      simp only [looksLikeMantissaE, List.cons_append, hstart, Bool.true_and]
      rw [← List.cons_append, List.getLast?_append]
      rcases he with rfl | rfl <;> simp

end Evalexpr.Spec

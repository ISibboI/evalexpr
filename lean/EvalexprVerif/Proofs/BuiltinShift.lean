/-
Proofs/BuiltinShift.lean — property C10, part 3: `shl` / `shr` for amounts 0..63 are exactly the
documented two's-complement shifts (`a * 2^k` wrapped to 64 bits, floor division by `2^k`).
-/
import EvalexprVerif.Spec.RefBuiltin
import EvalexprVerif.Proofs.BuiltinBasic
namespace Evalexpr.Spec
open Evalexpr

theorem toNat_of_toInt_nonneg {w : Nat} (v : BitVec w) (h0 : 0 ≤ v.toInt) : v.toNat = v.toInt.toNat := by
  have h := BitVec.toInt_eq_toNat_cond v
  have := v.isLt
  split at h <;> omega

theorem shiftAmount (k : Int64) (h0 : 0 ≤ k.toInt) (h1 : k.toInt ≤ 63) :
    (k.toBitVec.smod 64).toNat = k.toInt.toNat := by
  rw [smod64_toNat, toNat_of_toInt_nonneg _ (by rwa [Int64.toInt_toBitVec]), Int64.toInt_toBitVec]
  omega

theorem shl_exact (a k : Int64) (h0 : 0 ≤ k.toInt) (h1 : k.toInt ≤ 63) :
    a <<< k = Int64.ofInt (a.toInt * 2 ^ k.toInt.toNat) := by
  apply Int64.toInt_inj.1
  rw [Int64.toInt_ofInt, ← Int64.toInt_toBitVec (a <<< k), Int64.toBitVec_shiftLeft, BitVec.shiftLeft_eq',
    shiftAmount k h0 h1, BitVec.toInt_shiftLeft, Nat.shiftLeft_eq, ← Int64.toInt_toBitVec a,
    BitVec.toInt_eq_toNat_bmod a.toBitVec]
  have hs : Int64.size = 2 ^ 64 := by decide
  rw [hs, Int.bmod_mul_bmod, Int.natCast_mul, Int.natCast_pow]
  rfl

theorem shr_exact (a k : Int64) (h0 : 0 ≤ k.toInt) (h1 : k.toInt ≤ 63) :
    a >>> k = Int64.ofInt (a.toInt / 2 ^ k.toInt.toNat) := by
  apply Int64.toInt_inj.1
  have hpos : (0 : Int) < 2 ^ k.toInt.toNat := Int.pow_pos (by decide)
  have hl := Int64.le_toInt a
  have hu := Int64.toInt_lt a
  rw [Int64.toInt_ofInt_of_le, ← Int64.toInt_toBitVec (a >>> k), Int64.toBitVec_shiftRight,
    BitVec.toInt_sshiftRight', shiftAmount k h0 h1, Int64.toInt_toBitVec, Int.shiftRight_eq_div_pow,
    Int.natCast_pow]
  · rfl
  · rw [Int.le_ediv_iff_mul_le hpos]
    generalize (2 : Int) ^ k.toInt.toNat = d at *
    omega
  · rw [Int.ediv_lt_iff_lt_mul hpos]
    generalize (2 : Int) ^ k.toInt.toNat = d at *
    omega

/-- a shift operation that is exact for amounts 0..63 meets `shlRef` / `shrRef`: the value there, unclaimed elsewhere -/
theorem meets_shift {op : Int64 → Int64 → Int64} {e : Int64 → Int64 → Int}
    (h : ∀ a k, 0 ≤ k.toInt → k.toInt ≤ 63 → op a k = Int64.ofInt (e a k)) (a k : Int64) :
    MeetsP (.ok (.int (op a k)))
      (if 0 ≤ k.toInt && k.toInt ≤ 63 then .value (.int (Int64.ofInt (e a k))) else .any) := by
  split
  · rename_i hk
    simp only [Bool.and_eq_true, decide_eq_true_eq] at hk
    exact congrArg (fun i => Except.ok (Value.int i)) (h a k hk.1 hk.2)
  · intro _ he; cases he

end Evalexpr.Spec

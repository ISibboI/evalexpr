/-
Proofs/NoPanicEval.lean — property C01 for the evaluator: `Operator.eval`, `Operator.evalMut`,
`Node.evalRO`, `Node.evalMut` and the 48 entry points never produce `Err.panic`, for any tree and
any context whose user functions do not panic (the builtins are a hypothesis, proved separately).
-/
import EvalexprVerif.Model.Interface
import EvalexprVerif.Proofs.EvalOps
import EvalexprVerif.Proofs.EvalInduction
import EvalexprVerif.Proofs.ErrorSweep

namespace Evalexpr.Spec
open Evalexpr

def NoPanicCtx (c : Ctx) : Prop := ∀ id f arg, c.userFn id = some f → (f arg).isPanic = false
/-- the builtins do not panic (proved separately; a hypothesis here) -/
def BuiltinsNoPanic : Prop := ∀ (b : Builtin) (arg : Value), (b.call arg).isPanic = false

theorem afterCall_noPanic (hb : BuiltinsNoPanic) (c : Ctx) (id : Str) (arg : Value) (r : Res Value)
    (h : r.isPanic = false) : (afterCall c id arg r).isPanic = false := by
  unfold afterCall
  split
  · -- the context answered `FunctionIdentifierNotFound`
    split
    · split
      · exact hb _ _ -- a builtin of that name
      · rfl -- none
    · exact h -- builtins are disabled
  · exact h -- any other answer is handed on

theorem callFunction_noPanic (hb : BuiltinsNoPanic) (id : Str) (arg : Value) (s : St)
    (hc : NoPanicCtx s.ctx) : (callFunction id arg s).1.isPanic = false := by
  rw [callFunction_eq]
  cases hu : s.ctx.userFn id with
  | none => exact afterCall_noPanic hb _ _ _ (.error (.functionIdentifierNotFound id)) rfl
  | some f => exact afterCall_noPanic hb _ _ _ _ (hc id f arg hu)

theorem eval_noPanic (hb : BuiltinsNoPanic) (op : Operator) (args : List Value) (s : St)
    (hc : NoPanicCtx s.ctx) : (op.eval args s).1.isPanic = false := by
  cases hp : Operator.isPure op with
  | true => rw [eval_pure hp]; exact (plain_evalPure hp args).not_panic
  | false =>
    cases op with
    | varRead id =>
      simp only [Operator.eval]
      split
      · split <;> rfl
      · rfl
    | fn id =>
      simp only [Operator.eval]
      split
      · exact callFunction_noPanic hb id _ s hc
      · rfl
    | _ => cases hp

theorem C01_operator_eval (hb : BuiltinsNoPanic) (op : Operator) (args : List Value) (s : St)
    (hc : NoPanicCtx s.ctx) :
    (op.eval args s).1.isPanic = false ∧ NoPanicCtx (op.eval args s).2.ctx :=
  ⟨eval_noPanic hb op args s hc, by rw [eval_ctx]; exact hc⟩

theorem assignArgs_noPanic (op : Operator) (args : List Value) (c : Ctx) :
    (assignArgs op args c).isPanic = false := by
  unfold assignArgs
  split
  · -- two arguments
    rename_i t v
    cases ht : t.asString with
    | error e => exact ((plain_asString t).of_eq ht).not_panic
    | ok x =>
      cases hb : op.assignBase with
      | none => rfl
      | some base =>
        simp only
        cases c.getValue x with
        | none => rfl
        | some left => exact ((plain_map _ _).2 (plain_evalPure (assignBase_isPure hb) _)).not_panic
  · rfl -- any other number of arguments

theorem evalMut_noPanic (hb : BuiltinsNoPanic) (op : Operator) (args : List Value) (s : St)
    (hc : NoPanicCtx s.ctx) : (op.evalMut args s).1.isPanic = false := by
  cases hk : Operator.isAssignKind op with
  | false => rw [evalMut_of_not_assign op args s hk]; exact eval_noPanic hb op args s hc
  | true =>
    rw [evalMut_of_assign op args s hk]
    have := assignArgs_noPanic op args s.ctx
    split
    · -- no target or no value
      rename_i e he
      rw [he] at this
      exact this
    · split
      · -- `set_value` refuses
        rename_i he
        exact ((plain_ctx_setValue _ _ _).of_eq he).not_panic
      · rfl -- stored: the answer is `Empty`

theorem NoPanicCtx.of_sameFns {s s' : St} (h : SameFns s s') (hc : NoPanicCtx s.ctx) :
    NoPanicCtx s'.ctx :=
  fun id f arg hf => hc id f arg (h.1 id ▸ hf)

theorem C01_operator_evalMut (hb : BuiltinsNoPanic) (op : Operator) (args : List Value) (s : St)
    (hc : NoPanicCtx s.ctx) :
    (op.evalMut args s).1.isPanic = false ∧ NoPanicCtx (op.evalMut args s).2.ctx :=
  ⟨evalMut_noPanic hb op args s hc, .of_sameFns (evalMut_op_sameFns op args s) hc⟩

def FineL (p : Res (List Value) × St) : Prop := p.1.isPanic = false ∧ NoPanicCtx p.2.ctx

theorem evalG_fine (ap : Operator → List Value → St → Res Value × St)
    (hap : ∀ op args s, NoPanicCtx s.ctx →
      (ap op args s).1.isPanic = false ∧ NoPanicCtx (ap op args s).2.ctx) :
    (∀ n s, NoPanicCtx s.ctx →
        (evalG ap n s).1.isPanic = false ∧ NoPanicCtx (evalG ap n s).2.ctx) ∧
      ∀ cs s, NoPanicCtx s.ctx → FineL (evalGList ap cs s) :=
  evalG_ind ap (P := fun _ s p => NoPanicCtx s.ctx → p.1.isPanic = false ∧ NoPanicCtx p.2.ctx)
    (PL := fun _ s p => NoPanicCtx s.ctx → FineL p)
    (apply := fun op _ _ args s' h hc => hap op args s' (h hc).2)
    (childError := fun _ _ _ _ _ h => h) (nil := fun _ hc => ⟨rfl, hc⟩)
    (consError := fun _ _ _ _ _ h => h)
    (consOk := fun _ _ _ _ _ _ _ h h2 hc => ⟨rfl, (h2 (h hc).2).2⟩)
    (consOkError := fun _ _ _ _ _ _ _ h h2 hc => h2 (h hc).2)

theorem C01_eval_mut (hb : BuiltinsNoPanic) (n : Node) (s : St) (hc : NoPanicCtx s.ctx) :
    (n.evalMut s).1.isPanic = false ∧ NoPanicCtx (n.evalMut s).2.ctx := by
  rw [evalMut_eq_evalG]; exact (evalG_fine _ (C01_operator_evalMut hb)).1 n s hc
theorem evalMutList_fine (hb : BuiltinsNoPanic) (cs : List Node) (s : St) (hc : NoPanicCtx s.ctx) :
    FineL (evalMutList cs s) := by
  rw [evalMutList_eq_evalGList]; exact (evalG_fine _ (C01_operator_evalMut hb)).2 cs s hc
theorem C01_eval_ro (hb : BuiltinsNoPanic) (n : Node) (s : St) (hc : NoPanicCtx s.ctx) :
    (n.evalRO s).1.isPanic = false ∧ NoPanicCtx (n.evalRO s).2.ctx := by
  rw [evalRO_eq_evalG]; exact (evalG_fine _ (C01_operator_eval hb)).1 n s hc
theorem evalROList_fine (hb : BuiltinsNoPanic) (cs : List Node) (s : St) (hc : NoPanicCtx s.ctx) :
    FineL (evalROList cs s) := by
  rw [evalROList_eq_evalGList]; exact (evalG_fine _ (C01_operator_eval hb)).2 cs s hc

theorem project_noPanic (k : Kind) (r : Res Value) (h : r.isPanic = false) :
    (k.project r).isPanic = false := by
  cases r with
  | error e => exact h
  | ok v => cases k <;> cases v <;> rfl

theorem fresh_noPanicCtx : NoPanicCtx St.fresh.ctx := by
  intro id f arg h
  simp [St.fresh, Ctx.userFn, alookup] at h

theorem runTreeUntyped_noPanic (hb : BuiltinsNoPanic) (m : Mode) (n : Node) (s : St)
    (hc : NoPanicCtx s.ctx) : (runTreeUntyped m n s).1.isPanic = false := by
  cases m with
  | fresh => exact (C01_eval_mut hb n St.fresh fresh_noPanicCtx).1
  | ro => exact (C01_eval_ro hb n s hc).1
  | mut_ => exact (C01_eval_mut hb n s hc).1

theorem C01_run_tree (hb : BuiltinsNoPanic) (k : Kind) (m : Mode) (n : Node) (s : St)
    (hc : NoPanicCtx s.ctx) : (runTree k m n s).1.isPanic = false := by
  unfold runTree
  exact project_noPanic k _ (runTreeUntyped_noPanic hb m n s hc)

end Evalexpr.Spec

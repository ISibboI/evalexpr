/-
Proofs/EvalOps.lean — the lemmas of Model/Eval.lean: what `callFunction`, `Operator.eval` and
`Operator.evalMut` compute, one characterising equation each, what they do to the state, and
`Node.evalMut` written with the early-return bind `bindE`. The tree-level equations are stated for
`Node.evalMut` only: `Node.evalRO` is the same walk with `Operator.eval` at the nodes
(`evalRO_eq_evalG`, Proofs/EvalInduction.lean), and what is needed of it is obtained through that.
-/
import EvalexprVerif.Spec.BigStep

namespace Evalexpr.Spec
open Evalexpr

def prependLog (l : List (Str × Value)) (s : St) : St := ⟨s.ctx, l ++ s.log⟩

theorem St.ext' {s t : St} (h₁ : s.ctx = t.ctx) (h₂ : s.log = t.log) : s = t := by
  cases s; cases t; simp_all

/-- the match on the answer of `call_function` in the `FunctionIdentifier` arm -/
def afterCall (c : Ctx) (id : Str) (arg : Value) (r : Res Value) : Res Value :=
  match r with
  | .error (.functionIdentifierNotFound _) =>
    if !c.builtinsDisabled then
      match builtinFunction id with
      | some b => b.call arg
      | none => .error (.functionIdentifierNotFound id)
    else r
  | r => r

/-- a function the context defines is called and logged, whatever it answers — also the
`FunctionIdentifierNotFound` that sends the evaluator on to the builtin (finding K2) -/
theorem callFunction_eq (id : Str) (arg : Value) (s : St) :
    callFunction id arg s =
      match s.ctx.userFn id with
      | some f => (afterCall s.ctx id arg (f arg), { s with log := s.log ++ [(id, arg)] })
      | none => (afterCall s.ctx id arg (.error (.functionIdentifierNotFound id)), s) := by
  unfold callFunction afterCall
  cases s.ctx.userFn id with
  | none =>
    simp only
    cases s.ctx.builtinsDisabled <;> simp only [Bool.not_true, Bool.not_false] <;> try rfl
    cases builtinFunction id <;> rfl
  | some f =>
    simp only
    cases f arg with
    | ok v => rfl
    | error e =>
      -- every error but `FunctionIdentifierNotFound` is handed on as it is
      cases e <;> try rfl
      cases s.ctx.builtinsDisabled <;> simp only [Bool.not_true, Bool.not_false] <;> try rfl
      cases builtinFunction id <;> rfl

theorem callFunction_snd (id : Str) (arg : Value) (s : St) :
    (callFunction id arg s).2 =
      match s.ctx.userFn id with
      | some _ => { s with log := s.log ++ [(id, arg)] }
      | none => s := by
  rw [callFunction_eq]
  cases s.ctx.userFn id <;> rfl

/-- a call reads the context only: its answer and the call it logs are those from the empty log -/
theorem callFunction_frame (id : Str) (arg : Value) (c : Ctx) (l : List (Str × Value)) :
    callFunction id arg ⟨c, l⟩ =
      ((callFunction id arg ⟨c, []⟩).1, ⟨c, l ++ (callFunction id arg ⟨c, []⟩).2.log⟩) := by
  rw [callFunction_eq, callFunction_eq]
  show (match c.userFn id with | some f => _ | none => _) = _
  cases c.userFn id with
  | none => simp only [List.append_nil]
  | some f => rfl

/-- the operators that do not look at the context -/
def Operator.isPure : Operator → Bool
  | .varRead _ | .fn _ => false
  | _ => true

theorem eval_pure {op : Operator} (h : Operator.isPure op = true) (args : List Value) (s : St) :
    op.eval args s = (op.evalPure args, s) := by
  -- `rfl` for the pure operators; `h` is false for `varRead` and `fn`
  cases op <;> first | rfl | cases h

/-- `Operator::eval` reads the context only: the answer is the one from the empty log, the context
stays, and what is logged is appended to the log it started with -/
theorem eval_frame (op : Operator) (args : List Value) (c : Ctx) (l : List (Str × Value)) :
    op.eval args ⟨c, l⟩ =
      ((op.eval args ⟨c, []⟩).1, ⟨c, l ++ (op.eval args ⟨c, []⟩).2.log⟩) := by
  cases hp : Operator.isPure op with
  | true => rw [eval_pure hp, eval_pure hp, List.append_nil]
  | false =>
    cases op <;> cases hp <;> simp only [Operator.eval]
    · -- `varRead`
      split
      · split <;> simp only [List.append_nil]
      · simp only [List.append_nil]
    · -- `fn`
      split
      · exact callFunction_frame _ _ c l
      · simp only [List.append_nil]

theorem eval_ctx (op : Operator) (args : List Value) (s : St) : (op.eval args s).2.ctx = s.ctx := by
  rw [eval_frame]

theorem eval_log (op : Operator) (args : List Value) (s : St) :
    ∃ l, (op.eval args s).2.log = s.log ++ l :=
  ⟨_, by rw [eval_frame]⟩

theorem eval_prepend (l : List (Str × Value)) (op : Operator) (args : List Value) (s : St) :
    op.eval args (prependLog l s) = ((op.eval args s).1, prependLog l (op.eval args s).2) := by
  rw [prependLog, eval_frame, eval_frame op args s.ctx s.log, prependLog, List.append_assoc]

theorem evalMut_of_not_assign (op : Operator) (args : List Value) (s : St)
    (h : Operator.isAssignKind op = false) : op.evalMut args s = op.eval args s := by
  -- `rfl`: the last arm of `eval_mut`; `h` is false for the nine assignment operators
  cases op <;> first | rfl | cases h

theorem eval_of_assign (op : Operator) (args : List Value) (s : St)
    (h : Operator.isAssignKind op = true) : op.eval args s = (.error .contextNotMutable, s) := by
  -- `rfl` for the nine assignment operators; `h` is false for all others
  cases op <;> first | rfl | cases h

theorem assignBase_isPure {op base : Operator} (h : op.assignBase = some base) :
    Operator.isPure base = true := by
  cases op <;> cases h <;> rfl

/-- what an assignment operator stores, and where: `x = v` stores `v`, `x ∘= v` stores `x ∘ v`
for the value `x` has in `c` -/
def assignArgs (op : Operator) (args : List Value) (c : Ctx) : Res (Str × Value) :=
  match args with
  | [t, v] =>
    match t.asString with
    | .error e => .error e
    | .ok x =>
      match op.assignBase with
      | none => .ok (x, v)
      | some base =>
        match c.getValue x with
        | none => .error (.variableIdentifierNotFound x)
        | some left => (base.evalPure [left, v]).map (x, ·)
  | _ => .error (wrongArgs 2 args.length)

/-- an assignment operator fails with the state untouched, or answers `Empty` after exactly one
successful `set_value` -/
theorem evalMut_of_assign (op : Operator) (args : List Value) (s : St)
    (h : Operator.isAssignKind op = true) :
    op.evalMut args s =
      match assignArgs op args s.ctx with
      | .error e => (.error e, s)
      | .ok (x, v) =>
        match s.ctx.setValue x v with
        | .error e => (.error e, s)
        | .ok c => (.ok .empty, { s with ctx := c }) := by
  -- the nine assignment operators remain
  cases op <;> try (cases h; done)
  all_goals
    -- `rfl`: any number of arguments but two is `WrongOperatorArgumentAmount` on both sides
    rcases args with _ | ⟨t, _ | ⟨v, _ | ⟨w, rest⟩⟩⟩ <;> try rfl
    -- `dsimp`, not `simp`: unfolding by `simp` is several times dearer here
    dsimp only [Operator.evalMut, assignArgs, Operator.assignBase, Operator.eval, setValue]
    cases t.asString with
    | error e => rfl
    | ok x =>
      dsimp only
      -- first alternative: `=`, which stores `v`; second: the eight `∘=`, which read `x` first
      first
      | (cases s.ctx.setValue x v <;> rfl)
      | (cases s.ctx.getValue x with
         | none => rfl
         | some left =>
           dsimp only
           cases Operator.evalPure _ [left, v] with
           | error e => rfl
           | ok r => dsimp only [Except.map]; cases s.ctx.setValue x r <;> rfl)

theorem evalMut_assign_shape (op : Operator) (args : List Value) (s : St)
    (h : Operator.isAssignKind op = true) :
    (∃ e, op.evalMut args s = (.error e, s)) ∨
      ∃ id v c, s.ctx.setValue id v = .ok c ∧ op.evalMut args s = (.ok .empty, { s with ctx := c }) := by
  rw [evalMut_of_assign op args s h]
  split
  · exact Or.inl ⟨_, rfl⟩ -- no target or no value
  · split
    · exact Or.inl ⟨_, rfl⟩ -- `set_value` refuses
    · rename_i hc
      exact Or.inr ⟨_, _, _, hc, rfl⟩

theorem setValue_fns {c c' : Ctx} {id : Str} {v : Value} (h : c.setValue id v = .ok c') :
    c'.userFn = c.userFn ∧ c'.builtinsDisabled = c.builtinsDisabled := by
  cases c with
  | hashMap hm =>
    simp only [Ctx.setValue, HashMapCtx.setValue] at h
    split at h
    · split at h
      · cases h; exact ⟨rfl, rfl⟩
      · cases h
    · cases h; exact ⟨rfl, rfl⟩
  | _ => cases h

theorem setValue_hashMap {c c' : Ctx} {id : Str} {v : Value} (h : c.setValue id v = .ok c') :
    ∃ hm, c' = .hashMap hm := by
  cases c with
  | hashMap hm =>
    rw [Ctx.setValue] at h
    cases hv : hm.setValue id v <;> rw [hv] at h <;> cases h
    exact ⟨_, rfl⟩
  | _ => cases h

def SameFns (s s' : St) : Prop :=
  (∀ id, s'.ctx.userFn id = s.ctx.userFn id) ∧ s'.ctx.builtinsDisabled = s.ctx.builtinsDisabled

theorem SameFns.refl (s : St) : SameFns s s := ⟨fun _ => rfl, rfl⟩

theorem SameFns.trans {a b c : St} (h₁ : SameFns a b) (h₂ : SameFns b c) : SameFns a c :=
  ⟨fun id => (h₂.1 id).trans (h₁.1 id), h₂.2.trans h₁.2⟩

theorem SameFns.of_ctx_eq {s s' : St} (h : s'.ctx = s.ctx) : SameFns s s' := by
  unfold SameFns; rw [h]; exact ⟨fun _ => rfl, rfl⟩

theorem evalMut_op_sameFns (op : Operator) (args : List Value) (s : St) :
    SameFns s (op.evalMut args s).2 := by
  cases hk : Operator.isAssignKind op with
  | false => rw [evalMut_of_not_assign op args s hk]; exact .of_ctx_eq (eval_ctx op args s)
  | true =>
    rcases evalMut_assign_shape op args s hk with ⟨e, h⟩ | ⟨id, v, c, hc, h⟩ <;> rw [h]
    · exact .refl s
    · exact ⟨congrFun (setValue_fns hc).1, (setValue_fns hc).2⟩

theorem arity_error (op : Operator) (args : List Value) (s : St) (n : Nat)
    (hn : op.maxArgumentAmount = some n) (hr : op.isRoot = false) (hl : args.length ≠ n) :
    (∃ e, (op.evalMut args s).1 = .error e) ∧ (∃ e, (op.eval args s).1 = .error e) := by
  -- `cases hn` fixes `n` (and disposes of `tuple`, `chain`), `cases hr` disposes of the root node
  cases op <;> cases hn <;> first | (cases hr; done) | skip
  all_goals
    -- the list of length `n` contradicts `hl`; on every other length both evaluators fail by `rfl`
    rcases args with _ | ⟨a, _ | ⟨b, _ | ⟨c, rest⟩⟩⟩ <;>
      first | exact absurd rfl hl | exact ⟨⟨_, rfl⟩, ⟨_, rfl⟩⟩

/-- the evaluator's `?`: an error returns early, keeping the state reached so far -/
def bindE {α β : Type} (a : Res α × St) (k : α → St → Res β × St) : Res β × St :=
  match a with
  | (.error e, s) => (.error e, s)
  | (.ok v, s) => k v s

@[simp] theorem bindE_ok {α β : Type} (v : α) (s : St) (k : α → St → Res β × St) :
    bindE (.ok v, s) k = k v s := rfl
@[simp] theorem bindE_error {α β : Type} (e : Err) (s : St) (k : α → St → Res β × St) :
    bindE (.error e, s) k = (.error e, s) := rfl

theorem evalMut_node (op : Operator) (cs : List Node) (s : St) :
    (Node.mk op cs).evalMut s = bindE (evalMutList cs s) fun args s => op.evalMut args s := by
  rw [Node.evalMut]
  rcases evalMutList cs s with ⟨_ | _, _⟩ <;> rfl

theorem evalMutList_bind (c : Node) (cs : List Node) (s : St) :
    evalMutList (c :: cs) s =
      bindE (c.evalMut s) fun v s => bindE (evalMutList cs s) fun vs s => (.ok (v :: vs), s) := by
  rw [evalMutList]
  rcases c.evalMut s with ⟨_ | v, s'⟩
  · rfl
  · rcases h : evalMutList cs s' with ⟨_ | _, _⟩ <;> simp only [h, bindE_ok] <;> rfl

theorem evalMut_assignNode (op : Operator) (x : Str) (rhs : Node) (s : St) :
    (Node.mk op [⟨.varWrite x, []⟩, rhs]).evalMut s =
      bindE (rhs.evalMut s) fun v s => op.evalMut [.string x, v] s := by
  have hw : (Node.mk (.varWrite x) []).evalMut s = (.ok (.string x), s) := by
    rw [Node.evalMut, evalMutList]; rfl
  rw [evalMut_node, evalMutList_bind, hw, bindE_ok, evalMutList_bind]
  rcases rhs.evalMut s with ⟨_ | v, s'⟩
  · rfl
  · rw [bindE_ok, bindE_ok, evalMutList]; rfl

end Evalexpr.Spec

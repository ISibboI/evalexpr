/- Proofs/AgreePanic.lean — extracted tables equal the expected ones (see Spec/Tables.lean). -/
import EvalexprVerif.Generated.PanicSites
import EvalexprVerif.Spec.Tables

namespace Evalexpr.Agree
open Evalexpr.Spec

theorem panicSites_agree : Generated.panicSites = Tables.panicSites := rfl

end Evalexpr.Agree

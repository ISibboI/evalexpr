/-
Proofs/AgreeFnSweep.lean — the rest of the API as translated on this run (`Generated/FnSweep.lean`): the `Value::is_*` predicates,
`From<…> for Value` and `TryFrom<Value> for …` (src/value/mod.rs), the identifier iterators of src/tree/mod.rs, the two unit
contexts' `default`, `Display for Value`, serde's `visit_str`, `Node::iter` / `iter_operators_mut`.
The Model has no named counterpart for most of the projections: each theorem states the obvious equation over the
Model's `Value` (what the harness checks for the API).
-/
import EvalexprVerif.Generated.FnSweep
import EvalexprVerif.Translate.Lemmas
import EvalexprVerif.Model.Iter
import EvalexprVerif.Model.Serde
import EvalexprVerif.Proofs.Iterators
import EvalexprVerif.Proofs.AgreeFnIter
import EvalexprVerif.Proofs.AgreeFnInterface

namespace Evalexpr.AgreeFn
open Evalexpr

theorem fn_Value_is_string_agree (v : Value) : Gen.Value.is_string v = (match v with | .string _ => true | _ => false) := by
  cases v <;> eq_refl
theorem fn_Value_is_int_agree (v : Value) : Gen.Value.is_int v = (match v with | .int _ => true | _ => false) := by
  cases v <;> eq_refl
theorem fn_Value_is_float_agree (v : Value) : Gen.Value.is_float v = (match v with | .float _ => true | _ => false) := by
  cases v <;> eq_refl
theorem fn_Value_is_number_agree (v : Value) :
    Gen.Value.is_number v = (match v with | .int _ | .float _ => true | _ => false) := by cases v <;> eq_refl
theorem fn_Value_is_boolean_agree (v : Value) : Gen.Value.is_boolean v = (match v with | .boolean _ => true | _ => false) := by
  cases v <;> eq_refl
theorem fn_Value_is_tuple_agree (v : Value) : Gen.Value.is_tuple v = (match v with | .tuple _ => true | _ => false) := by
  cases v <;> eq_refl
theorem fn_Value_is_empty_agree (v : Value) : Gen.Value.is_empty v = (match v with | .empty => true | _ => false) := by
  cases v <;> eq_refl
theorem fn_Value_is_agree_type (v : Value) :
    Gen.Value.is_string v = (v.type == .string) ∧ Gen.Value.is_int v = (v.type == .int) ∧
    Gen.Value.is_float v = (v.type == .float) ∧ Gen.Value.is_boolean v = (v.type == .boolean) ∧
    Gen.Value.is_tuple v = (v.type == .tuple) ∧ Gen.Value.is_empty v = (v.type == .empty) ∧
    Gen.Value.is_number v = (v.type == .int || v.type == .float) := by
  cases v <;> exact ⟨rfl, rfl, rfl, rfl, rfl, rfl, rfl⟩

theorem fn_Value_from_TupleType_agree (t : List Value) : Gen.Value.from_TupleType t = .tuple t := rfl
theorem fn_EvalexprResultValue_from_Value_agree (v : Value) : Gen.EvalexprResultValue.from_Value v = .ok v := rfl
theorem fn_Value_from_Unit_agree (u : Unit) : Gen.Value.from_Unit u = .empty := rfl

/-! `impl TryFrom<Value> for String / bool / TupleType / ()` -/
theorem fn_String_try_from_agree (v : Value) : Gen.String.try_from v = v.asString := by cases v <;> eq_refl
theorem fn_bool_try_from_agree (v : Value) : Gen.bool.try_from v = v.asBoolean := by cases v <;> eq_refl
theorem fn_TupleType_try_from_agree (v : Value) : Gen.TupleType.try_from v = v.asTuple := by cases v <;> eq_refl
theorem fn_Unit_try_from_agree (v : Value) : Gen.Unit.try_from v = v.asEmpty := by cases v <;> eq_refl

/-! ### the identifier iterators of src/tree/mod.rs

`Node::iter` / `Node::iter_operators_mut` are BOUNDARY calls here (mapped to the Model's `Node.iter` /
`Node.iterOperatorsMut`, the lists they yield; the step function `NodeIter::next` under them is translated and proved in
AgreeFnIter). What is translated and proved is the adaptor of each of the ten functions: which operators it keeps and what
it yields. An `impl Iterator` is the list of its items; the `_mut` variants also return `self` (unchanged). -/

theorem fn_Node_iter_identifiers_agree (n : Node) :
    Gen.Node.iter_identifiers n = n.iterIdents .identifiers :=
  Spec.iterIdents_of _ n _ fun o _ => by cases o <;> eq_refl
theorem fn_Node_iter_identifiers_mut_agree (n : Node) :
    (Gen.Node.iter_identifiers_mut n).1 = n.iterIdentsMut .identifiers ∧ (Gen.Node.iter_identifiers_mut n).2 = n :=
  ⟨Spec.iterIdentsMut_of _ n _ fun o => by cases o <;> eq_refl, rfl⟩
theorem fn_Node_iter_variable_identifiers_agree (n : Node) :
    Gen.Node.iter_variable_identifiers n = n.iterIdents .variable :=
  Spec.iterIdents_of _ n _ fun o _ => by cases o <;> eq_refl
theorem fn_Node_iter_variable_identifiers_mut_agree (n : Node) :
    (Gen.Node.iter_variable_identifiers_mut n).1 = n.iterIdentsMut .variable ∧ (Gen.Node.iter_variable_identifiers_mut n).2 = n :=
  ⟨Spec.iterIdentsMut_of _ n _ fun o => by cases o <;> eq_refl, rfl⟩
theorem fn_Node_iter_read_variable_identifiers_agree (n : Node) :
    Gen.Node.iter_read_variable_identifiers n = n.iterIdents .readVariable :=
  Spec.iterIdents_of _ n _ fun o _ => by cases o <;> eq_refl
theorem fn_Node_iter_read_variable_identifiers_mut_agree (n : Node) :
    (Gen.Node.iter_read_variable_identifiers_mut n).1 = n.iterIdentsMut .readVariable ∧ (Gen.Node.iter_read_variable_identifiers_mut n).2 = n :=
  ⟨Spec.iterIdentsMut_of _ n _ fun o => by cases o <;> eq_refl, rfl⟩
theorem fn_Node_iter_write_variable_identifiers_agree (n : Node) :
    Gen.Node.iter_write_variable_identifiers n = n.iterIdents .writeVariable :=
  Spec.iterIdents_of _ n _ fun o _ => by cases o <;> eq_refl
theorem fn_Node_iter_write_variable_identifiers_mut_agree (n : Node) :
    (Gen.Node.iter_write_variable_identifiers_mut n).1 = n.iterIdentsMut .writeVariable ∧ (Gen.Node.iter_write_variable_identifiers_mut n).2 = n :=
  ⟨Spec.iterIdentsMut_of _ n _ fun o => by cases o <;> eq_refl, rfl⟩
theorem fn_Node_iter_function_identifiers_agree (n : Node) :
    Gen.Node.iter_function_identifiers n = n.iterIdents .function :=
  Spec.iterIdents_of _ n _ fun o _ => by cases o <;> eq_refl
theorem fn_Node_iter_function_identifiers_mut_agree (n : Node) :
    (Gen.Node.iter_function_identifiers_mut n).1 = n.iterIdentsMut .function ∧ (Gen.Node.iter_function_identifiers_mut n).2 = n :=
  ⟨Spec.iterIdentsMut_of _ n _ fun o => by cases o <;> eq_refl, rfl⟩

/-! the two unit contexts' `default` (`EmptyContext`/`EmptyContextWithBuiltinFunctions` are modelled as `Unit`,
the state of `Ctx.empty` / `Ctx.emptyWithBuiltins`; see AgreeFnContext) -/
theorem fn_EmptyContext_default_agree : Gen.EmptyContext.default = () := rfl
theorem fn_EmptyContextWithBuiltinFunctions_default_agree : Gen.EmptyContextWithBuiltinFunctions.default = () := rfl

/-! ### `Display for Value` (src/value/display.rs) = `Value.display`

`Gen.Value.fmt v` is the text `fmt` appends to the formatter. The `once`-flag loop is identified with the
Model's `displayList` through `sepList` (separator before every element but the first); the hypothesis of
`foldFor_sep` (one iteration = optional separator, then the element) is discharged by executing the generated
loop body, whatever its shape. -/
def sepList : Bool → List Value → Str
  | _, [] => []
  | once, v :: r => (if once then cl!", " else []) ++ v.display ++ sepList true r

theorem sepList_false_eq (l : List Value) : sepList false l = Value.displayList l := by
  induction l with
  | nil => simp [sepList, Value.displayList]
  | cons v r ih =>
    cases r with
    | nil => simp [sepList, Value.displayList]
    | cons w rest =>
      rw [Value.displayList, ← ih]
      simp [sepList, List.append_assoc]

theorem foldFor_sep {t : List Value} (f : {x // x ∈ t} → Str × Bool → Str × Bool)
    (hf : ∀ a out once, f a (out, once) = (out ++ (if once then cl!", " else []) ++ a.1.display, true))
    (l : List {x // x ∈ t}) (out : Str) (once : Bool) :
    (Rs.foldFor l (out, once) f).1 = out ++ sepList once (l.map Subtype.val) := by
  induction l generalizing out once with
  | nil => simp [Rs.foldFor, sepList]
  | cons a l ih => rw [Rs.foldFor, hf, ih]; simp [sepList, List.append_assoc]

theorem fn_Value_fmt_agree (v : Value) : Gen.Value.fmt v = Value.display v := by
  have IH : ∀ t, v = .tuple t → ∀ x ∈ t, Gen.Value.fmt x = x.display := fun t ht x hx => fn_Value_fmt_agree x
  cases v with
  | tuple t =>
    rw [Gen.Value.fmt]
    simp only [Rs.push_str_def, List.nil_append]
    rw [foldFor_sep _ _ _ _ _, List.attach_map_subtype_val, sepList_false_eq]
    · simp [Value.display]
    · -- one pass through the generated loop body: the separator unless this is the first element, then the element
      rintro ⟨a, ha⟩ out once
      cases once <;> simp [IH t rfl a ha]
  | _ => simp [Gen.Value.fmt, Value.display, Rs.to_string, Rs.ToString.to_string]
termination_by sizeOf v
decreasing_by subst ht; exact Rs.value_lt hx

/-! ### serde `visit_str` (src/feature_serde/mod.rs) = `deserializeNode` (Model/Serde.lean)
boundary: `E::custom(error)` ↦ `Rs.de_custom error` (the error is kept as `Err`, as in the Model) -/
theorem fn_NodeVisitor_visit_str_agree (s : Str) : Gen.NodeVisitor.visit_str () s = deserializeNode s := by
  simp only [Gen.NodeVisitor.visit_str, deserializeNode, fn_build_operator_tree_agree, Rs.de_custom]
  cases buildOperatorTree s <;> eq_refl

/-! ### `Node::iter` / `Node::iter_operators_mut` (src/tree/iter.rs) = `Node.iter` / `Node.iterOperatorsMut`

The translated functions collect the translated `NodeIter::next` / `OperatorIterMut::next` to exhaustion
(`Rs.collect_iter`); with any fuel above the size of the tree the result is the Model's list. So the boundary entries
`Node::iter ↦ Evalexpr.Node.iter`, `iter_operators_mut ↦ Evalexpr.Node.iterOperatorsMut`, through which the identifier iterators
above call them, are themselves proved of the translated code. -/
open Evalexpr.Spec

/-- collecting, from the children of `n`, a translated `next` that yields `f` of the node the Model's `nodeIterNext` yields (given
more fuel than the stack has entries) gives `f` of the nodes of `n.iter`, with any fuel above the size of `n` -/
theorem collect_iter_of {α : Type} (f : Node → α) (next : Nat → Rs.IterStack → Res (Option α × Rs.IterStack))
    (hnext : ∀ fuel (rs : List (List Node)), rs.length < fuel → next fuel ⟨rs.reverse⟩ =
      .ok (match nodeIterNext rs with
        | none => (none, ⟨[]⟩)
        | some (n, rs') => (some (f n), ⟨rs'.reverse⟩)))
    (n : Node) (fuel : Nat) (h : n.size < fuel) :
    Rs.collect_iter (next fuel) fuel ⟨[n.children]⟩ = .ok (n.iter.map f) := by
  -- from any stack: with more fuel than nodes are left on it, and `next` given more than its entries and those nodes
  have H : ∀ (k : Nat) (rs : List (List Node)), stackSize rs < k → rs.length + stackSize rs < fuel →
      Rs.collect_iter (next fuel) k ⟨rs.reverse⟩ = .ok ((stackNodes rs).map f) := by
    intro k
    induction k with
    | zero => intro _ h; omega
    | succ k ih =>
      intro rs h h0
      rw [Rs.collect_iter, hnext fuel rs (by omega)]
      cases hn : nodeIterNext rs with
      | none => rw [nodeIterNext_none rs hn]; rfl
      | some p =>
        -- a node is yielded: one node less is left on the new stack, which has grown by one entry at most
        obtain ⟨n, rs'⟩ := p
        have ⟨h1, h2, h3⟩ := nodeIterNext_some rs n rs' hn
        simp only []
        rw [ih rs' (by omega) (by omega), h1]
        rfl
  rw [C14_preorder, show [n.children] = [n.children].reverse from rfl, H fuel]
  · simp [stackNodes]
  all_goals simp [stackSize, size_eq n] at h ⊢; omega

theorem fn_Node_iter_agree (n : Node) (fuel : Nat) (h : n.size < fuel) : Gen.Node.iter fuel n = .ok n.iter := by
  rw [Gen.Node.iter, fn_NodeIter_new_agree, collect_iter_of id _ (fun fuel rs => fn_NodeIter_next_agree rs fuel) n fuel h,
    List.map_id]

theorem fn_Node_iter_operators_mut_agree (n : Node) (fuel : Nat) (h : n.size < fuel) :
    Gen.Node.iter_operators_mut fuel n = .ok n.iterOperatorsMut := by
  rw [Gen.Node.iter_operators_mut, fn_OperatorIterMut_new_agree, collect_iter_of (·.op) _ (fun fuel rs hl => by
    rw [fn_OperatorIterMut_next_agree rs fuel hl, operatorIterMutNext_eq]; cases nodeIterNext rs <;> eq_refl) n fuel h, C14_mut_same]

end Evalexpr.AgreeFn

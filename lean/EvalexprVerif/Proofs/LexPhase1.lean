/-
Proofs/LexPhase1.lean — phase 1 of C07: the partial tokens of a rendered token sequence
(`partials`), and `lexNormal` maps the rendering to them. A float written with a signed exponent is
three partial tokens: `<mantissa>e`, sign, `<digits>`.
-/
import EvalexprVerif.Spec.LexExt
import EvalexprVerif.Proofs.Literals

namespace Evalexpr.Spec
open Evalexpr

/-- a word split at its first sign character, if it has one -/
def signedPartials (w : Str) : List PartialToken :=
  .literal (w.takeWhile (fun c => !isSignChar c)) ::
    match w.dropWhile (fun c => !isSignChar c) with
    | s :: b => [charToPartialToken s, .literal b]
    | [] => []

def ptokPartials (p : PTok) : List PartialToken :=
  match p.tok with
  | .float _ => signedPartials p.text
  | .identifier _ | .int _ | .boolean _ => [.literal p.text]
  | .string s => [.token (.string s)]
  | .plus => [.plus] | .minus => [.minus] | .star => [.star] | .slash => [.slash]
  | .percent => [.percent] | .hat => [.hat]
  | .eq => [.eq, .eq] | .neq => [.exclamationMark, .eq] | .gt => [.gt] | .lt => [.lt]
  | .geq => [.gt, .eq] | .leq => [.lt, .eq]
  | .and => [.ampersand, .ampersand] | .or => [.verticalBar, .verticalBar]
  | .not => [.exclamationMark]
  | .lBrace => [.token .lBrace] | .rBrace => [.token .rBrace]
  | .assign => [.eq] | .plusAssign => [.plus, .eq] | .minusAssign => [.minus, .eq]
  | .starAssign => [.star, .eq] | .slashAssign => [.slash, .eq] | .percentAssign => [.percent, .eq]
  | .hatAssign => [.hat, .eq] | .andAssign => [.ampersand, .ampersand, .eq]
  | .orAssign => [.verticalBar, .verticalBar, .eq]
  | .comma => [.token .comma] | .semicolon => [.token .semicolon]

def partials : List (Gap × PTok) → Gap → List PartialToken
  | [], g => gapPartials g
  | (g', p) :: rest, g => gapPartials g' ++ ptokPartials p ++ partials rest g

theorem signedPartials_signfree (w : Str) (h : ∀ c ∈ w, ¬ isSignChar c = true) :
    signedPartials w = [.literal w] := by
  obtain ⟨h1, h2⟩ := takeWhile_dropWhile_self (fun c => !isSignChar c) w
    (List.all_eq_true.2 fun c hc => by simpa using h c hc)
  simp only [signedPartials, h1, h2]

theorem signedPartials_eq (a b : Str) (s : Char) (ha : ∀ c ∈ a, ¬ isSignChar c = true)
    (hs : isSignChar s = true) :
    signedPartials (a ++ s :: b) = [.literal a, charToPartialToken s, .literal b] := by
  obtain ⟨h1, h2⟩ := takeWhile_dropWhile_append (fun c => !isSignChar c) a (s :: b)
    (List.all_eq_true.2 fun c hc => by simpa using ha c hc) fun c r h => by cases h; simp [hs]
  simp only [signedPartials, h1, h2]

theorem sign_partial (s : Char) (hs : s = '+' ∨ s = '-') :
    ∃ sp : PartialToken, charToPartialToken s = sp ∧ isPlusOrMinus sp = true ∧ sp.display = [s] ∧
      ∀ l, headLit (sp :: l) = false := by
  rcases hs with rfl | rfl
  · exact ⟨.plus, rfl, rfl, rfl, fun _ => rfl⟩
  · exact ⟨.minus, rfl, rfl, rfl, fun _ => rfl⟩

theorem ptokPartials_word (p : PTok) (hp : p.Printable) (hw : isWordTok p.tok = true) :
    isWord p.text = true ∧ ptokPartials p = [.literal p.text] := by
  obtain ⟨tok, text⟩ := p
  cases tok
  case float f =>
    exact ⟨hp.1, signedPartials_signfree _ (not_isSignChar_of_isWord _ hp.1)⟩
  case identifier w => exact ⟨hp.1 ▸ hp.2.1, rfl⟩
  case int | boolean => exact ⟨hp.1, rfl⟩
  all_goals cases hw

theorem printableX_signed (p : PTok) (hs : isSignedFloatText p.text = true) (f : Float)
    (hf : p.tok = .float f) :
    ∃ m e s ex, p.text = m ++ e :: s :: ex ∧ isMantissa m = true ∧ (e = 'e' ∨ e = 'E') ∧
      (s = '+' ∨ s = '-') ∧ isDigits ex = true ∧
      ptokPartials p = [.literal (m ++ [e]), charToPartialToken s, .literal ex] := by
  obtain ⟨tok, text⟩ := p
  simp only at hf hs ⊢
  subst hf
  unfold isSignedFloatText at hs
  rcases splitExp_cases text with hsp | ⟨m, e, ex', ht, he, hsp⟩
  · rw [hsp] at hs; cases hs
  rw [hsp] at hs
  cases ex' with
  | nil => cases hs
  | cons s ex =>
    simp only [Bool.and_eq_true, Bool.or_eq_true, beq_iff_eq] at hs
    obtain ⟨⟨hm, hsg⟩, hex⟩ := hs
    refine ⟨m, e, s, ex, ht, hm, he, hsg, hex, ?_⟩
    have e1 : text = (m ++ [e]) ++ s :: ex := by rw [ht]; simp
    simp only [ptokPartials, e1]
    exact signedPartials_eq _ _ _ (not_isSignChar_of_isWord _ (mantissaE_word m e hm he).1)
      ((isSignChar_iff s).2 hsg)

theorem PTok.Printable.text_ne_nil {p : PTok} (hp : p.Printable) : p.text ≠ [] := by
  obtain ⟨tok, text⟩ := p
  rintro rfl
  cases tok
  case identifier w => obtain ⟨h1, h2, -⟩ := hp; dsimp only at h1; subst h1; cases h2
  case int | float | boolean => obtain ⟨h, -⟩ := hp; cases h
  all_goals cases hp

theorem PTok.PrintableX.text_ne_nil {p : PTok} (hp : p.PrintableX) : p.text ≠ [] := by
  rcases hp with hp | ⟨hs, -⟩
  · exact hp.text_ne_nil
  · intro h; rw [h] at hs; cases hs

theorem headLit_ptokPartials (p : PTok) (acc : List PartialToken) :
    headLit ((ptokPartials p).reverse ++ acc) = isWordTok p.tok := by
  obtain ⟨tok, text⟩ := p
  cases tok <;> try rfl
  case float f =>
    simp only [ptokPartials, signedPartials]
    split <;> rfl

theorem headLit_gapPartials (g : Gap) (acc : List PartialToken) :
    headLit (gapPartials g ++ acc) = (g.isEmpty && headLit acc) := by
  cases g <;> rfl

theorem lexNormal_op (c : Char) (hc : c ∈ specialChars) (hs : c ≠ '/') (rest : Str)
    (acc : List PartialToken) :
    lexNormal (c :: rest) acc = lexNormal rest (charToPartialToken c :: acc) := by
  have hq : c ≠ '"' := fun e => (by decide : '"' ∉ specialChars) (e ▸ hc)
  have hl := List.all_eq_true.1
    (by decide : specialChars.all (fun d => !headLit [charToPartialToken d]) = true) c hc
  rw [lexNormal_cons_other c rest acc hq hs, pushPartial_push]
  right
  intro l h
  rw [h] at hl
  cases hl

theorem lexNormal_ops (txt : Str) (h : txt.all (fun c => specialChars.contains c && c != '/') = true)
    (rest : Str) (acc : List PartialToken) :
    lexNormal (txt ++ rest) acc = lexNormal rest ((txt.map charToPartialToken).reverse ++ acc) := by
  induction txt generalizing acc with
  | nil => rfl
  | cons c txt ih =>
    simp only [List.all_cons, Bool.and_eq_true, List.contains_iff_mem, bne_iff_ne] at h
    rw [List.cons_append, lexNormal_op c h.1.1 h.1.2, ih h.2]
    simp

theorem lexNormal_ptok (p : PTok) (hp : p.PrintableX) (rest : Str) (acc : List PartialToken)
    (hacc : headLit acc = true → isWordTok p.tok = false)
    (hsl : isSlash p.tok = true → rest.head? ≠ some '/' ∧ rest.head? ≠ some '*') :
    lexNormal (p.text ++ rest) acc = lexNormal rest ((ptokPartials p).reverse ++ acc) := by
  rcases hp with hp | ⟨hs, f, hf, -⟩
  -- a `Printable` token
  · obtain ⟨tok, text⟩ := p
    cases tok
    case identifier | int | float | boolean =>
      obtain ⟨hword, hpp⟩ := ptokPartials_word _ hp rfl
      rw [hpp]
      refine lexNormal_word _ hword rest acc ?_
      cases h : headLit acc
      · rfl
      · cases hacc h
    case string s => cases hp; exact lexNormal_string _ rest acc
    -- the fixed tokens: `text` is the token's spelling
    all_goals (have := Option.some.inj hp; subst this)
    case slash => exact lexNormal_slash rest acc (hsl rfl).1 (hsl rfl).2
    case slashAssign =>
      rw [List.cons_append, lexNormal_slash _ _ (by simp) (by simp)]
      exact lexNormal_ops ['='] rfl rest _
    -- the other operators and punctuation: every character is an operator character, none is `/`
    all_goals exact lexNormal_ops _ rfl rest acc
  -- a float with a signed exponent: the word `<mantissa>e`, the sign, the word `<digits>`
  · obtain ⟨m, e, s, ex, ht, hm, he, hsg, hex, hpx⟩ := printableX_signed p hs f hf
    obtain ⟨sp, hsp1, -, -, hsp5⟩ := sign_partial s hsg
    have hacc' : headLit acc = false := by
      cases h : headLit acc
      · rfl
      · have := hacc h; rw [hf] at this; cases this
    have hs1 : s ∈ specialChars ∧ s ≠ '/' := by rcases hsg with rfl | rfl <;> decide
    have e1 : p.text ++ rest = (m ++ [e]) ++ (s :: (ex ++ rest)) := by rw [ht]; simp
    rw [hpx, e1, lexNormal_word _ (mantissaE_word m e hm he).1 _ acc hacc',
      lexNormal_op s hs1.1 hs1.2, hsp1,
      lexNormal_word ex (isWord_of_isDigits ex hex) rest _ (hsp5 _)]
    simp

theorem renderFrom_eq_nil (ps : List (Gap × PTok)) (g : Gap) (hp : ∀ p ∈ ps, p.2.PrintableX)
    (h : renderFrom ps g = []) : ps = [] ∧ g = [] := by
  cases ps with
  | nil => exact ⟨rfl, Classical.byContradiction fun hg => Gap.text_ne_nil g hg h⟩
  | cons q rest =>
    obtain ⟨g1, q⟩ := q
    have := (hp (g1, q) (by simp)).text_ne_nil
    simp [renderFrom, this] at h

/-- what the accumulator must satisfy before lexing `ps`: a trailing literal does not touch a word -/
def AccOK (acc : List PartialToken) : List (Gap × PTok) → Prop
  | [] => True
  | (g0, p) :: _ => headLit acc = true → g0 ≠ [] ∨ isWordTok p.tok = false

theorem AccOK_nil (ps : List (Gap × PTok)) : AccOK [] ps := by
  cases ps with
  | nil => trivial
  | cons r _ => intro h; cases h

/-- phase 1, with an arbitrary accumulator in front and arbitrary text behind -/
theorem lexNormal_render (ps : List (Gap × PTok)) (g : Gap) (tail : Str)
    (hp : ∀ p ∈ ps, p.2.PrintableX) (ha : AdmissibleX ps g)
    (htail : ∀ p, ps.getLast? = some p → isSlash p.2.tok = true → g = [] →
      tail.head? ≠ some '/' ∧ tail.head? ≠ some '*')
    (acc : List PartialToken) (hacc : AccOK acc ps) :
    lexNormal (renderFrom ps g ++ tail) acc = lexNormal tail ((partials ps g).reverse ++ acc) := by
  induction ps generalizing acc with
  | nil =>
    simp only [renderFrom, partials, gapPartials_reverse]
    exact lexNormal_gap g ha tail acc
  | cons gp rest ih =>
    obtain ⟨g0, p⟩ := gp
    have hpp : p.PrintableX := hp (g0, p) (by simp)
    have hprest : ∀ q ∈ rest, q.2.PrintableX := fun q hq => hp q (by simp [hq])
    obtain ⟨hv, hfuse, hslash, harest⟩ := ha
    simp only [renderFrom, partials, List.append_assoc, List.reverse_append, gapPartials_reverse]
    rw [lexNormal_gap g0 hv, lexNormal_ptok p hpp, ih hprest harest]
    · -- `htail` for the rest: its last token is the last token of the whole
      intro q hq
      apply htail q
      cases rest with
      | nil => simp at hq
      | cons r rest' => simpa [List.getLast?_cons_cons] using hq
    · -- a word after `p` is separated from it, since two words fuse
      cases rest with
      | nil => trivial
      | cons r rest' =>
        obtain ⟨g1, q⟩ := r
        simp only [AccOK, headLit_ptokPartials]
        intro hw
        cases hq : isWordTok q.tok with
        | false => exact Or.inr rfl
        | true => exact Or.inl (hfuse.1 (by simp [fuses, hw, hq]))
    · -- `p` touches a literal at the end of `acc` only if its gap is empty
      rw [headLit_gapPartials]
      intro h
      simp only [Bool.and_eq_true, List.isEmpty_iff] at h
      rcases hacc h.2 with h' | h'
      · exact absurd h.1 h'
      · exact h'
    · -- what follows a slash: the rest of the rendering, or `tail` if nothing is left of it
      intro hs
      cases hx : renderFrom rest g with
      | nil =>
        obtain ⟨rfl, rfl⟩ := renderFrom_eq_nil rest g hprest hx
        exact htail (g0, p) (by simp) hs rfl
      | cons c cs => simpa [hx] using hslash hs

theorem strToPartialTokens_render (ps : List (Gap × PTok)) (g : Gap)
    (hp : ∀ p ∈ ps, p.2.PrintableX) (ha : AdmissibleX ps g) :
    strToPartialTokens (renderFrom ps g) = .ok (partials ps g) := by
  have := lexNormal_render ps g [] hp ha (by intro p _ _ _; simp) [] (AccOK_nil ps)
  simpa [strToPartialTokens, lexNormal_nil] using this

end Evalexpr.Spec

/-
Proofs/SerdeRoundtrip.lean — property C16: values and contexts survive the serde round trip
(functions are skipped), and deserializing a `Node` is `build_operator_tree`.
-/
import EvalexprVerif.Model.Serde
import EvalexprVerif.Spec.RefCtx

namespace Evalexpr.Spec
open Evalexpr

mutual
theorem C16_value (v : Value) : Value.ofData v.toData = some v :=
  match v with
  | .string _ | .float _ | .int _ | .boolean _ | .empty => rfl
  | .tuple t => by
    show (Value.ofDataList (Value.toDataList t)).map Value.tuple = _
    rw [ofDataList_toDataList t]; rfl
theorem ofDataList_toDataList : ∀ vs : List Value, Value.ofDataList (Value.toDataList vs) = some vs
  | [] => rfl
  | v :: vs => by
    rw [Value.toDataList, Value.ofDataList, C16_value v, ofDataList_toDataList vs]
end

theorem ainsert_fresh {β : Type} (k : Str) (v : β) :
    ∀ acc : List (Str × β), (∀ p ∈ acc, p.1 ≠ k) → ainsert k v acc = acc ++ [(k, v)]
  | [], _ => rfl
  | (k', v') :: rest, h => by
    have hk : k' ≠ k := h (k', v') (List.mem_cons_self ..)
    have hrest : ∀ p ∈ rest, p.1 ≠ k := fun p hp => h p (List.mem_cons_of_mem _ hp)
    simp [ainsert, hk, ainsert_fresh k v rest hrest]

theorem varsOfData_varsToData :
    ∀ (l acc : List (Str × Value)), keysNodup l → (∀ p ∈ l, ∀ q ∈ acc, q.1 ≠ p.1) →
      varsOfData (varsToData l) acc = some (acc ++ l)
  | [], acc, _, _ => by simp [varsToData, varsOfData]
  | (k, v) :: rest, acc, hnd, hdis => by
    have hfresh : ∀ q ∈ acc, q.1 ≠ k := fun q hq => hdis (k, v) (List.mem_cons_self ..) q hq
    simp only [varsToData, varsOfData, C16_value, ainsert_fresh k v acc hfresh]
    rw [varsOfData_varsToData rest (acc ++ [(k, v)]) hnd.2]
    · simp
    · intro p hp q hq
      rcases List.mem_append.1 hq with hq | hq
      · exact hdis p (List.mem_cons_of_mem _ hp) q hq
      · simp only [List.mem_singleton] at hq
        subst hq
        exact fun heq => hnd.1 p hp heq.symm

theorem C16_context (h : HashMapCtx) (hinv : HashMapCtx.Inv h) :
    HashMapCtx.ofData h.toData = some { vars := h.vars, funs := [], noBuiltins := h.noBuiltins } := by
  have hv := varsOfData_varsToData h.vars [] hinv.1 (by simp)
  simp only [List.nil_append] at hv
  simp [HashMapCtx.toData, HashMapCtx.ofData, hv]

theorem C16_nofun (h h' : HashMapCtx) (hinv : HashMapCtx.Inv h) (hr : HashMapCtx.ofData h.toData = some h')
    (id : Str) :
    Ctx.userFn (.hashMap h') id = none ∧
      (∀ k, Ctx.getValue (.hashMap h') k = Ctx.getValue (.hashMap h) k) ∧
      h'.noBuiltins = h.noBuiltins := by
  rw [C16_context h hinv] at hr
  cases hr
  exact ⟨rfl, fun _ => rfl, rfl⟩

theorem C16_node (s : List Char) : deserializeNode s = buildOperatorTree s := rfl

end Evalexpr.Spec

/- Proofs/AgreeNumeric.lean — extracted tables equal the expected ones (see Spec/Tables.lean). -/
import EvalexprVerif.Generated.NumericTraits
import EvalexprVerif.Spec.Tables

namespace Evalexpr.Agree
open Evalexpr.Spec

theorem floatTrait_agree : Generated.floatTrait = Tables.floatTrait := rfl
theorem intTrait_agree : Generated.intTrait = Tables.intTrait := rfl
theorem intAsFloat_agree : Generated.intAsFloatRecognised = true := rfl

end Evalexpr.Agree

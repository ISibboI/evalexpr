/-
Proofs/NearestArith.lean — the float-independent arithmetic of `F64.roundRat`: the half-even rounded
quotient of a / b is within half a unit of a / b (exactly half only if it is even), hence nearest
among all integers, and, scaled by 2^E, nearest among all values on that grid or below the binade.
-/
import EvalexprVerif.Spec.Nearest

namespace Evalexpr.Spec.Nearest

/-- round half to even of `a / b`, exactly as written inside `F64.roundRat` -/
def roundHE (a b : Nat) : Nat :=
  if 2 * (a % b) > b then a / b + 1
  else if 2 * (a % b) == b then (if a / b % 2 == 1 then a / b + 1 else a / b)
  else a / b

theorem roundHE_cases (a b : Nat) :
    (roundHE a b = a / b ∧ 2 * (a % b) ≤ b ∧ (2 * (a % b) = b → a / b % 2 = 0)) ∨
    (roundHE a b = a / b + 1 ∧ b ≤ 2 * (a % b) ∧ (2 * (a % b) = b → a / b % 2 = 1)) := by
  unfold roundHE
  by_cases h1 : 2 * (a % b) > b
  · -- above the midpoint: up
    right; simp [h1]; omega
  · by_cases h2 : 2 * (a % b) = b
    · by_cases h3 : a / b % 2 = 1
      · -- tie, odd quotient: up
        right; simp [h2, h3]
      · -- tie, even quotient: down
        left; simp [h2, h3]; omega
    · -- below the midpoint: down
      left; simp [h1, h2]; omega

theorem roundHE_ge (a b : Nat) : a / b ≤ roundHE a b := by
  rcases roundHE_cases a b with h | h <;> omega

theorem roundHE_le (a b : Nat) : roundHE a b ≤ a / b + 1 := by
  rcases roundHE_cases a b with h | h <;> omega

/-- `|x − y|` -/
def adiff (x y : Nat) : Nat := ((x : Int) - (y : Int)).natAbs

/-- two different multiples of `b` are at least `b` apart -/
theorem adiff_add_adiff (a b q k : Nat) (hne : k ≠ q) : b ≤ adiff a (q * b) + adiff a (k * b) := by
  unfold adiff
  rcases Nat.lt_or_gt_of_ne hne with h | h <;>
    · have := Nat.mul_le_mul_right b h
      rw [Nat.succ_mul] at this
      omega

/-- the rounded quotient is within half a unit of `a / b`, and exactly half a unit off only if it
is even -/
theorem roundHE_half (a b : Nat) (hb : 0 < b) :
    2 * adiff a (roundHE a b * b) ≤ b ∧
      (2 * adiff a (roundHE a b * b) = b → roundHE a b % 2 = 0) := by
  have hdm := Nat.div_add_mod' a b
  have hr := Nat.mod_lt a hb
  unfold adiff
  rcases roundHE_cases a b with ⟨h, h2, h3⟩ | ⟨h, h2, h3⟩ <;> rw [h]
  · omega
  · rw [Nat.add_mul, Nat.one_mul]; omega

/-- among the multiples of `b`, `roundHE a b · b` is nearest to `a`; another one equally near makes
`roundHE a b` even -/
theorem roundHE_nearest (a b k : Nat) (hb : 0 < b) :
    adiff a (roundHE a b * b) ≤ adiff a (k * b) ∧
      (k ≠ roundHE a b → adiff a (k * b) = adiff a (roundHE a b * b) → roundHE a b % 2 = 0) := by
  obtain ⟨half, even⟩ := roundHE_half a b hb
  by_cases hne : k = roundHE a b
  · subst hne; exact ⟨Nat.le_refl _, fun h => absurd rfl h⟩
  · have := adiff_add_adiff a b _ k hne
    exact ⟨by omega, fun _ h => even (by omega)⟩

/-- a common factor of numerator and denominator does not change the rounded quotient -/
theorem roundHE_mul_right (a b c : Nat) (hc : 0 < c) : roundHE (a * c) (b * c) = roundHE a b := by
  unfold roundHE
  simp only [Nat.mul_div_mul_right _ _ hc, Nat.mul_mod_mul_right, ← Nat.mul_assoc, gt_iff_lt,
    Nat.mul_lt_mul_right hc, beq_iff_eq, Nat.mul_right_cancel_iff hc]

/-- Nearest on a grid, ties to even: with `b = d·2^E`, `roundHE a b · 2^E` is the grid point next to
`x = a/d`. A candidate `v` that is on the grid, or below the bottom `M·2^E` of a binade that `x` is
not below, is at least as far from `x`; if it is another value at the same distance, `roundHE a b` is
even. Distances are scaled by `d`. -/
theorem nearest_grid (a b d E M v : Nat) (hbd : b = d * 2 ^ E) (hd : 0 < d) (hge : M ≤ a / b ∨ E = 0)
    (hv : 2 ^ E ∣ v ∨ v < M * 2 ^ E) :
    adiff a (roundHE a b * 2 ^ E * d) ≤ adiff a (v * d) ∧
    (v ≠ roundHE a b * 2 ^ E → adiff a (v * d) = adiff a (roundHE a b * 2 ^ E * d) →
      roundHE a b % 2 = 0) := by
  have hb : 0 < b := hbd ▸ Nat.mul_pos hd (Nat.pow_pos (by decide))
  have grid : ∀ k, k * 2 ^ E * d = k * b := fun k => by rw [hbd, Nat.mul_assoc, Nat.mul_comm d]
  rw [grid]
  rcases hv with ⟨k, rfl⟩ | hv
  · -- `v = k·2^E` is on the grid
    rw [Nat.mul_comm (2 ^ E) k, grid]
    obtain ⟨g1, g2⟩ := roundHE_nearest a b k hb
    exact ⟨g1, fun hne => g2 fun e => hne (e ▸ rfl)⟩
  · rcases hge with hge | rfl
    · -- `v` lies below the grid point `M·2^E ≤ x`, which is itself no nearer than the rounded one
      have hM := (roundHE_nearest a b M hb).1
      have h1 := (Nat.le_div_iff_mul_le hb).1 hge
      have h2 := Nat.mul_lt_mul_of_pos_right hv hd
      rw [grid] at h2
      generalize adiff a (roundHE a b * b) = r at *
      unfold adiff at hM ⊢
      omega
    · -- `E = 0`: every `v` is on the grid
      have := roundHE_nearest a b v hb
      rw [← grid v] at this
      simp only [Nat.pow_zero, Nat.mul_one] at this ⊢
      exact this

/-- A quotient below `2^53` rounds up to `2^53` exactly from the midpoint `2^53 − ½` on: the tie
goes up because `2^53 − 1` is odd. `omega` sees only the two or three facts each step needs: with
coefficients near `2^54` its elimination does not come back on a larger context. -/
theorem roundHE_top (a b : Nat) (hb : 0 < b) (hlt : a / b < 2 ^ 53) :
    2 ^ 53 ≤ roundHE a b ↔ (2 ^ 54 - 1) * b ≤ 2 * a := by
  have hdm := Nat.div_add_mod a b
  have h1 := roundHE_le a b
  have top : a / b = 2 ^ 53 - 1 → (b ≤ 2 * (a % b) ↔ (2 ^ 54 - 1) * b ≤ 2 * a) := fun hq => by
    rw [hq] at hdm; clear h1 hlt hq; omega
  constructor
  · intro h
    have hq : a / b = 2 ^ 53 - 1 := by omega
    rcases roundHE_cases a b with ⟨c1, _, _⟩ | ⟨_, c2, _⟩
    · omega
    · exact (top hq).1 c2
  · intro h
    have hq1 : (2 ^ 53 - 1) * b ≤ a := by clear hdm h1 hlt top; omega
    have hq : a / b = 2 ^ 53 - 1 := by have := (Nat.le_div_iff_mul_le hb).2 hq1; omega
    rcases roundHE_cases a b with ⟨_, c2, c3⟩ | ⟨c1, _, _⟩
    · have := c3 (Nat.le_antisymm c2 ((top hq).2 h)); omega
    · omega

end Evalexpr.Spec.Nearest

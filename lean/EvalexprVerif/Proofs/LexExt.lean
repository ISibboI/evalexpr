/-
Proofs/LexExt.lean — C06 / C07: instances of the round trip `C07_roundtrip_ext` with literals
embedded between other tokens without any gap: `0x1e-3`, `5e-3-2e-3`, `a-1e+2`, `1e+"3"`, `2E-(x)`.
-/
import EvalexprVerif.Proofs.LexRoundtrip

namespace Evalexpr.Spec
open Evalexpr

theorem C06_hex_embedded : tokenize cl!"0x1e-3" = .ok [.int 30, .minus, .int 3] :=
  tokenize_tight [⟨.int 30, cl!"0x1e"⟩, ⟨.minus, cl!"-"⟩, ⟨.int 3, cl!"3"⟩]
    (by
      intro p hp
      simp only [List.mem_cons, List.not_mem_nil, or_false] at hp
      rcases hp with rfl | rfl | rfl
      · exact .inl ⟨by decide, (C06_hex cl!"1e" (by decide) (by decide)).1⟩
      · exact .inl rfl
      · exact .inl ⟨by decide, (C06_dec cl!"3" (by decide) (by decide)).1⟩)
    (admissibleX_tight _ _ _ _ (admissibleX_tight _ _ _ _ (admissibleX_single _) rfl rfl nofun)
      rfl rfl nofun)

theorem C06_signed_embedded : ∃ f g, F64.parse cl!"5e-3" = some f ∧ F64.parse cl!"2e-3" = some g ∧
    tokenize cl!"5e-3-2e-3" = .ok [.float f, .minus, .float g] := by
  obtain ⟨f, hf, hpf⟩ := printableX_signed_float cl!"5" cl!"3" (by decide) (by decide) 'e' '-'
    (Or.inl rfl) (Or.inr rfl)
  obtain ⟨g, hg, hpg⟩ := printableX_signed_float cl!"2" cl!"3" (by decide) (by decide) 'e' '-'
    (Or.inl rfl) (Or.inr rfl)
  refine ⟨f, g, hf, hg, tokenize_tight [⟨.float f, cl!"5e-3"⟩, ⟨.minus, cl!"-"⟩, ⟨.float g, cl!"2e-3"⟩]
    ?_ (admissibleX_tight _ _ _ _ (admissibleX_tight _ _ _ _ (admissibleX_single _) rfl rfl nofun)
      rfl rfl nofun)⟩
  intro p hp
  simp only [List.mem_cons, List.not_mem_nil, or_false] at hp
  rcases hp with rfl | rfl | rfl
  · exact hpf
  · exact .inl rfl
  · exact hpg

theorem C06_signed_after_ident : ∃ f, F64.parse cl!"1e+2" = some f ∧
    tokenize cl!"a-1e+2" = .ok [.identifier cl!"a", .minus, .float f] := by
  obtain ⟨f, hf, hpf⟩ := printableX_signed_float cl!"1" cl!"2" (by decide) (by decide) 'e' '+'
    (Or.inl rfl) (Or.inl rfl)
  refine ⟨f, hf, tokenize_tight [⟨.identifier cl!"a", cl!"a"⟩, ⟨.minus, cl!"-"⟩, ⟨.float f, cl!"1e+2"⟩]
    ?_ (admissibleX_tight _ _ _ _ (admissibleX_tight _ _ _ _ (admissibleX_single _) rfl rfl nofun)
      rfl rfl nofun)⟩
  intro p hp
  simp only [List.mem_cons, List.not_mem_nil, or_false] at hp
  rcases hp with rfl | rfl | rfl
  · exact printable_ident _ (by decide) (by decide) (by decide) (by decide) (by decide) (by decide)
  · exact .inl rfl
  · exact hpf

/-- `1e+"3"`: an identifier, a plus and a string — not a float, since the token after the sign is no
word -/
theorem C07_sign_before_string :
    tokenize cl!"1e+\"3\"" = .ok [.identifier cl!"1e", .plus, .string cl!"3"] :=
  tokenize_tight [⟨.identifier cl!"1e", cl!"1e"⟩, ⟨.plus, cl!"+"⟩, ⟨.string cl!"3", cl!"\"3\""⟩]
    (by
      intro p hp
      simp only [List.mem_cons, List.not_mem_nil, or_false] at hp
      rcases hp with rfl | rfl | rfl
      · exact printable_ident _ (by decide) (by decide) (by decide) (by decide) (by decide) (by decide)
      · exact .inl rfl
      · exact .inl rfl)
    (admissibleX_tight _ _ _ _ (admissibleX_tight _ _ _ _ (admissibleX_single _) rfl rfl nofun)
      rfl rfl nofun)

theorem C07_sign_before_paren :
    tokenize cl!"2E-(x)" =
      .ok [.identifier cl!"2E", .minus, .lBrace, .identifier cl!"x", .rBrace] :=
  tokenize_tight [⟨.identifier cl!"2E", cl!"2E"⟩, ⟨.minus, cl!"-"⟩, ⟨.lBrace, cl!"("⟩,
      ⟨.identifier cl!"x", cl!"x"⟩, ⟨.rBrace, cl!")"⟩]
    (by
      intro p hp
      simp only [List.mem_cons, List.not_mem_nil, or_false] at hp
      rcases hp with rfl | rfl | rfl | rfl | rfl
      · exact printable_ident _ (by decide) (by decide) (by decide) (by decide) (by decide) (by decide)
      · exact .inl rfl
      · exact .inl rfl
      · exact printable_ident _ (by decide) (by decide) (by decide) (by decide) (by decide) (by decide)
      · exact .inl rfl)
    (admissibleX_tight _ _ _ _ (admissibleX_tight _ _ _ _ (admissibleX_tight _ _ _ _
      (admissibleX_tight _ _ _ _ (admissibleX_single _) rfl rfl nofun) rfl rfl nofun) rfl rfl nofun)
      rfl rfl nofun)

end Evalexpr.Spec

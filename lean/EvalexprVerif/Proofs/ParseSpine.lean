/-
Proofs/ParseSpine.lean — the behaviour of `Node.insertBackPrioritized` on a right spine
(part of the proof of C02). A spine is a list of frames (an operator with its already-complete
left children); `openS a F` is the spine with an open operand slot at its tip, `plug (a :: F) t`
the spine with `t` in that slot.
-/
import EvalexprVerif.Proofs.TreeInsert

namespace Evalexpr.Spec
open Evalexpr

/-- a frame of the right spine: an operator and its already-complete left children -/
structure Frame where
  op : Operator
  left : List Node

/-- one more child completes the frame -/
def Frame.full (f : Frame) : Prop := f.op.maxArgumentAmount = some (f.left.length + 1)

/-- the frame of a `RootNode` (an open parenthesis, or the root of the whole tree) -/
def R : Frame := ⟨.rootNode, []⟩

def plug : List Frame → Node → Node
  | [], t => t
  | f :: fs, t => ⟨f.op, f.left ++ [plug fs t]⟩

def openS : Frame → List Frame → Node
  | a, [] => ⟨a.op, a.left⟩
  | a, g :: gs => ⟨a.op, a.left ++ [openS g gs]⟩

theorem openS_op (a : Frame) (F : List Frame) : (openS a F).op = a.op := by
  cases F <;> rfl

theorem plug_append (F : List Frame) (g : Frame) (t : Node) :
    plug (F ++ [g]) t = plug F ⟨g.op, g.left ++ [t]⟩ := by
  induction F with
  | nil => rfl
  | cons f F ih => simp only [List.cons_append, plug, ih]

theorem openS_append (a : Frame) (F : List Frame) (g : Frame) :
    openS a (F ++ [g]) = plug (a :: F) ⟨g.op, g.left⟩ := by
  induction F generalizing a with
  | nil => rfl
  | cons f F ih => simp only [List.cons_append, openS, plug, ih]

theorem Frame.full_not_leaf {f : Frame} (h : f.full) : f.op.isLeaf = false := by
  unfold Frame.full at h
  simp [Operator.isLeaf, OpKind.isLeaf, Operator.maxArgumentAmount] at *
  rw [h]; simp

theorem Frame.full_len {f : Frame} (h : f.full) (x : Node) :
    (some (f.left ++ [x]).length == f.op.maxArgumentAmount) = true := by
  unfold Frame.full at h
  rw [h]; simp

theorem Frame.full_open {f : Frame} (h : f.full) :
    (some f.left.length == f.op.maxArgumentAmount) = false := by
  unfold Frame.full at h
  rw [h]; simp

theorem Frame.full_root {f : Frame} (h : f.full) (hr : f.op.isRoot = true) : f.left = [] := by
  unfold Frame.full at h
  simp [Operator.isRoot] at hr
  simp [Operator.maxArgumentAmount, hr, OpKind.maxArgumentAmount] at h
  exact h

/-- a complete frame that lets the node through hands it to its last child -/
theorem ins_full {a : Frame} (hf : a.full) (c node : Node) {isRoot : Bool}
    (hfirst : descends a.op node.op isRoot = true) :
    Node.insertBackPrioritized ⟨a.op, a.left ++ [c]⟩ node isRoot
      = insertAtLast a.op a.left [c] node := by
  simp only [Node.insertBackPrioritized, hfirst, Frame.full_not_leaf hf, Frame.full_len hf,
    if_true, Bool.false_eq_true, if_false]
  rw [insertAtLast_snoc, List.nil_append]

theorem ins_down {a : Frame} (hf : a.full) {c c' node : Node} {isRoot : Bool}
    (hfirst : descends a.op node.op isRoot = true) (hc : descends c.op node.op false = true)
    (hrec : c.insertBackPrioritized node false = .ok c') :
    Node.insertBackPrioritized ⟨a.op, a.left ++ [c]⟩ node isRoot = .ok ⟨a.op, a.left ++ [c']⟩ := by
  rw [ins_full hf _ _ hfirst]
  simp only [insertAtLast, hc, if_true, hrec]

/-- append: a node that every frame lets through is pushed into the open slot at the tip -/
theorem ins_append (a : Frame) (F : List Frame) (node : Node) (isRoot : Bool)
    (hfull : ∀ f ∈ a :: F, f.full)
    (hfirst : descends a.op node.op isRoot = true)
    (hadm : ∀ f ∈ F, descends f.op node.op false = true) :
    (openS a F).insertBackPrioritized node isRoot = .ok (plug (a :: F) node) := by
  induction F generalizing a isRoot with
  | nil => -- the tip: `a` still has room
    have hf := hfull a (by simp)
    simp only [openS, Node.insertBackPrioritized, hfirst, Frame.full_not_leaf hf, Frame.full_open hf, plug]
    simp
  | cons g gs ih => -- one frame down
    have hg : descends g.op node.op false = true := hadm g (by simp)
    exact ins_down (hfull a (by simp)) hfirst (by rw [openS_op]; exact hg)
      (ih g false (fun f h => hfull f (List.mem_cons_of_mem _ h)) hg
        fun f h => hadm f (List.mem_cons_of_mem _ h))

/-- rotate: a node that every frame lets through but the tip `t` does not takes `t` as its first child -/
theorem ins_rotate (a : Frame) (A : List Frame) (t node : Node) (isRoot : Bool)
    (hfull : ∀ f ∈ a :: A, f.full)
    (hfirst : descends a.op node.op isRoot = true)
    (hadm : ∀ f ∈ A, descends f.op node.op false = true)
    (hstop : descends t.op node.op false = false)
    (hnl : node.op.isLeaf = false) (hnr : node.op.isRoot = false) :
    (plug (a :: A) t).insertBackPrioritized node isRoot
      = .ok (plug (a :: A) ⟨node.op, node.children ++ [t]⟩) := by
  induction A generalizing a isRoot with
  | nil => -- the tip: `a` is complete and its last child `t` stops the node
    have hf := hfull a (by simp)
    -- a `RootNode` frame is complete with no left children, so the parenthesis checks pass
    have hpre : (a.op.isRoot && !a.left.isEmpty) = false := by
      cases hr : a.op.isRoot with
      | false => rfl
      | true => rw [Frame.full_root hf hr]; rfl
    rw [plug, plug, ins_full hf _ _ hfirst]
    simp only [insertAtLast, hstop, hnl, hnr, hpre]
    simp [plug]
  | cons g A ih => -- one frame down
    have hg : descends g.op node.op false = true := hadm g (by simp)
    exact ins_down (hfull a (by simp)) hfirst hg
      (ih g false (fun f h => hfull f (List.mem_cons_of_mem _ h)) hg
        fun f h => hadm f (List.mem_cons_of_mem _ h))

end Evalexpr.Spec

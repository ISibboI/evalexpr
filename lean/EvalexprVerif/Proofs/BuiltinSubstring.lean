/-
Proofs/BuiltinSubstring.lean — property C10, part 2: `str::substring`. The model slices by byte
offsets (`sliceBytes`), the reference selects the characters whose byte offset lies in
`[start, end)` when both are character boundaries (`substringRef`). The model's two slicing functions
are analysed once against the reference (`takeBytes_spec`, `sliceBytes_spec`); that `len` and `substring` share a unit
is a fact about the same two functions (`sliceBytes_len`, `takeBytes_full`).
-/
import EvalexprVerif.Proofs.BuiltinBasic
namespace Evalexpr.Spec
open Evalexpr

/-- the characters of `s` (laid out from byte offset `n`) whose offset lies in `[a, b)` -/
def sliceRef (s : Str) (n a b : Nat) : Str :=
  ((s.zip (byteOffsets s n)).filter (fun p => decide (a ≤ p.2) && decide (p.2 < b))).map (·.1)

theorem sliceRef_nil (n a b : Nat) : sliceRef [] n a b = [] := rfl

theorem sliceRef_cons (c : Char) (cs : Str) (n a b : Nat) :
    sliceRef (c :: cs) n a b =
      if a ≤ n ∧ n < b then c :: sliceRef cs (n + c.utf8Size) a b else sliceRef cs (n + c.utf8Size) a b := by
  by_cases h : a ≤ n ∧ n < b
  · simp [sliceRef, byteOffsets, h]
  · simp only [sliceRef, byteOffsets, List.zip_cons_cons, List.filter_cons, if_neg h]
    have : (decide (a ≤ n) && decide (n < b)) = false := by
      simp only [Bool.and_eq_false_iff, decide_eq_false_iff_not]; omega
    simp [this]

theorem mem_byteOffsets_bounds : ∀ (s : Str) (n o : Nat), o ∈ byteOffsets s n → n ≤ o ∧ o ≤ n + utf8Len s
  | [], n, o, h => by simp [byteOffsets] at h; simp [h, utf8Len]
  | c :: cs, n, o, h => by
    simp only [byteOffsets, List.mem_cons] at h
    rw [utf8Len_cons]
    rcases h with h | h
    · omega
    · have := mem_byteOffsets_bounds cs _ _ h; omega

theorem sliceRef_below (s : Str) (n a b : Nat) (h : b ≤ n) : sliceRef s n a b = [] := by
  induction s generalizing n with
  | nil => rfl
  | cons c cs ih =>
    rw [sliceRef_cons, if_neg (by omega), ih _ (by omega)]

theorem mem_byteOffsets_cons (c : Char) (cs : Str) (n o : Nat) (h : n < o) :
    o ∈ byteOffsets (c :: cs) n ↔ o ∈ byteOffsets cs (n + c.utf8Size) := by
  simp only [byteOffsets, List.mem_cons]; constructor
  · rintro (h | h); omega; exact h
  · exact Or.inr

theorem mem_byteOffsets_gap {c : Char} {cs : Str} {n o : Nat} (h : o ∈ byteOffsets (c :: cs) n) :
    o = n ∨ n + c.utf8Size ≤ o :=
  (List.mem_cons.1 h).imp_right fun h => (mem_byteOffsets_bounds _ _ _ h).1

theorem takeBytes_spec : ∀ (s : Str) (n a e : Nat), a ≤ n →
    sliceBytes.takeBytes s e =
      if n + e ∈ byteOffsets s n then some (sliceRef s n a (n + e)) else none
  | s, n, a, 0, _ => by
    have := head_mem_byteOffsets s n
    cases s <;> simp [sliceBytes.takeBytes, this, sliceRef_below]
  | [], n, a, e + 1, _ => by
    simp [sliceBytes.takeBytes, byteOffsets]
  | c :: cs, n, a, e + 1, ha => by
    have hpos := Char.utf8Size_pos c
    rw [sliceBytes.takeBytes]
    by_cases hc : c.utf8Size ≤ e + 1
    · -- `c` ends at or before the end offset: it is taken
      obtain ⟨k, hk⟩ := Nat.exists_eq_add_of_le hc
      rw [hk, if_pos (Nat.le_add_right ..), Nat.add_sub_cancel_left,
        takeBytes_spec cs (n + c.utf8Size) a k (Nat.le_add_right_of_le ha), Nat.add_assoc,
        sliceRef_cons, if_pos (show a ≤ n ∧ _ by omega)]
      simp only [mem_byteOffsets_cons c cs n (n + (c.utf8Size + k)) (by omega)]
      split <;> rfl
    · -- the end offset falls inside `c`: no boundary
      rw [if_neg hc, if_neg]
      intro h
      have := mem_byteOffsets_gap h
      omega

theorem sliceBytes_spec : ∀ (s : Str) (n st e : Nat), st ≤ e →
    sliceBytes s st e =
      if n + st ∈ byteOffsets s n ∧ n + e ∈ byteOffsets s n then some (sliceRef s n (n + st) (n + e)) else none
  | s, n, 0, e, _ => by
    have := head_mem_byteOffsets s n
    have h2 := takeBytes_spec s n n e (Nat.le_refl _)
    cases s <;> simpa [sliceBytes, this] using h2
  | [], n, st + 1, e, _ => by
    simp [sliceBytes, byteOffsets]
  | c :: cs, n, st + 1, e, hle => by
    have hpos := Char.utf8Size_pos c
    rw [sliceBytes]
    by_cases hc : c.utf8Size ≤ st + 1
    · -- `c` ends at or before the start offset: it is skipped
      obtain ⟨k, hk⟩ := Nat.exists_eq_add_of_le hc
      obtain ⟨e', rfl⟩ := Nat.exists_eq_add_of_le (Nat.le_trans hc hle)
      rw [hk] at hle ⊢
      rw [if_pos ⟨Nat.le_add_right .., Nat.le_add_right ..⟩, Nat.add_sub_cancel_left, Nat.add_sub_cancel_left,
        sliceBytes_spec cs (n + c.utf8Size) k e' (Nat.le_of_add_le_add_left hle), Nat.add_assoc, Nat.add_assoc,
        sliceRef_cons, if_neg (show ¬ (n + (c.utf8Size + k) ≤ n ∧ _) by omega)]
      simp only [mem_byteOffsets_cons c cs n (n + (c.utf8Size + k)) (by omega),
        mem_byteOffsets_cons c cs n (n + (c.utf8Size + e')) (by omega)]
    · -- the start offset falls inside `c`: no boundary
      rw [if_neg (fun h => hc h.1), if_neg]
      rintro ⟨h, -⟩
      have := mem_byteOffsets_gap h
      omega


theorem substringRef_eq (s : Str) (st e : Nat) :
    substringRef s st e =
      if st ≤ e ∧ st ∈ byteOffsets s 0 ∧ e ∈ byteOffsets s 0 then .value (.string (sliceRef s 0 st e))
      else .error := by
  simp only [substringRef, sliceRef, Bool.and_eq_true, decide_eq_true_eq, List.contains_iff_mem, and_assoc]

/-- the part of `substring` after argument decoding -/
def substringCore (s : Str) (st e : Nat) : Res Value :=
  if st > e || e > utf8Len s then .error .outOfBoundsAccess
  else match sliceBytes s st e with
    | some r => .ok (.string r)
    | none => .error .outOfBoundsAccess

theorem substringCore_meets (s : Str) (st e : Nat) : MeetsP (substringCore s st e) (substringRef s st e) := by
  rw [substringRef_eq, substringCore]
  split
  · -- start behind end, or end behind the string: the reference rejects too
    rename_i h
    simp only [Bool.or_eq_true, decide_eq_true_eq] at h
    rw [if_neg]
    · exact ⟨_, rfl, rfl⟩
    · rintro ⟨_, -, he⟩
      have := mem_byteOffsets_bounds _ _ _ he
      omega
  · -- in range: `sliceBytes` succeeds exactly on two boundaries
    rename_i h
    simp only [Bool.or_eq_true, decide_eq_true_eq, not_or, Nat.not_lt] at h
    rw [sliceBytes_spec s 0 st e h.1]
    simp only [Nat.zero_add]
    by_cases hm : st ∈ byteOffsets s 0 ∧ e ∈ byteOffsets s 0
    · rw [if_pos hm, if_pos ⟨h.1, hm⟩]; rfl
    · rw [if_neg hm, if_neg (fun h => hm h.2)]; exact ⟨_, rfl, rfl⟩


theorem substring_two (s : Str) (a : Int64) :
    substring (.tuple [.string s, .int a]) =
      if a.toInt < 0 then .error .outOfBoundsAccess else substringCore s a.toInt.toNat (utf8Len s) := by
  by_cases h : a.toInt < 0
  · simp [substring, Value.asRangedLenTuple, Value.asString, Value.asInt, intIntoUsize_neg a h, h]
  · simp [substring, Value.asRangedLenTuple, Value.asString, Value.asInt, intIntoUsize_nonneg a h, h, substringCore]
    split <;> rfl

theorem substring_three (s : Str) (a b : Int64) :
    substring (.tuple [.string s, .int a, .int b]) =
      if a.toInt < 0 || b.toInt < 0 then .error .outOfBoundsAccess
      else substringCore s a.toInt.toNat b.toInt.toNat := by
  by_cases h : a.toInt < 0
  · simp [substring, Value.asRangedLenTuple, Value.asString, Value.asInt, intIntoUsize_neg a h, h]
  · by_cases h' : b.toInt < 0
    · simp [substring, Value.asRangedLenTuple, Value.asString, Value.asInt, intIntoUsize_nonneg a h,
        intIntoUsize_neg b h', h, h']
    · simp [substring, Value.asRangedLenTuple, Value.asString, Value.asInt, intIntoUsize_nonneg a h,
        intIntoUsize_nonneg b h', h, h', substringCore]
      split <;> rfl

theorem substring_fails (arg : Value) (h2 : ∀ s a, arg ≠ .tuple [.string s, .int a])
    (h3 : ∀ s a b, arg ≠ .tuple [.string s, .int a, .int b]) : MeetsP (substring arg) .error := by
  rcases arg with _ | _ | _ | _ | (_ | ⟨x, _ | ⟨y, _ | ⟨z, _ | ⟨w, r⟩⟩⟩⟩) | _
  case tuple.cons.cons.nil =>
    -- two components: the subject is no string, or the start no int
    cases x
    case string s =>
      cases y
      case int a => exact absurd rfl (h2 s a)
      all_goals exact ⟨_, rfl, rfl⟩
    all_goals exact ⟨_, rfl, rfl⟩
  case tuple.cons.cons.cons.nil =>
    -- three components: subject, start or end of the wrong type
    cases x
    case string s =>
      cases y
      case int a =>
        -- the start index is converted before the end index is looked at
        show MeetsP (match intIntoUsize a with | .error _ => _ | .ok st => _) .error
        cases intIntoUsize a
        · exact ⟨_, rfl, rfl⟩
        · cases z
          case int b => exact absurd rfl (h3 s a b)
          all_goals exact ⟨_, rfl, rfl⟩
      all_goals exact ⟨_, rfl, rfl⟩
    all_goals exact ⟨_, rfl, rfl⟩
  -- no tuple, or fewer than two or more than three components
  all_goals exact ⟨_, rfl, rfl⟩

theorem C10_strSubstring (arg : Value) :
    MeetsP (Builtin.call .strSubstring arg) (refBuiltin .strSubstring arg) := by
  show MeetsP (substring arg) (match arg with
    | .tuple [.string s, .int a] =>
      if a.toInt < 0 then .error else substringRef s a.toInt.toNat ((byteOffsets s 0).getLast?.getD 0)
    | .tuple [.string s, .int a, .int b] =>
      if a.toInt < 0 || b.toInt < 0 then .error else substringRef s a.toInt.toNat b.toInt.toNat
    | _ => .error)
  split
  · -- (string, start): the end is the length
    rw [substring_two, len_ref_eq]
    split
    · exact ⟨_, rfl, rfl⟩  -- a negative index
    · exact substringCore_meets _ _ _
  · -- (string, start, end)
    rw [substring_three]
    split
    · exact ⟨_, rfl, rfl⟩  -- a negative index
    · exact substringCore_meets _ _ _
  · -- anything else
    rename_i h2 h3
    exact substring_fails arg (fun s a h => h2 s a h) (fun s a b h => h3 s a b h)

theorem sliceBytes_zero (s : Str) (e : Nat) : sliceBytes s 0 e = sliceBytes.takeBytes s e := by
  cases s <;> rfl

theorem takeBytes_len : ∀ (s : Str) (e : Nat) (t : Str), sliceBytes.takeBytes s e = some t → utf8Len t = e
  | s, 0, t, h => by cases s <;> cases h <;> rfl
  | [], _ + 1, _, h => by cases h
  | c :: cs, e + 1, t, h => by
    rw [sliceBytes.takeBytes] at h
    split at h
    · obtain ⟨t', ht, rfl⟩ := Option.map_eq_some_iff.1 h
      have := takeBytes_len cs _ t' ht
      rw [utf8Len_cons]; omega
    · cases h

theorem sliceBytes_len : ∀ (s : Str) (st e : Nat) (t : Str), sliceBytes s st e = some t → utf8Len t + st = e
  | s, 0, e, t, h => takeBytes_len s e t (sliceBytes_zero s e ▸ h)
  | [], _ + 1, _, _, h => by cases h
  | c :: cs, st + 1, e, t, h => by
    rw [sliceBytes] at h
    split at h
    · have := sliceBytes_len cs _ _ t h
      omega
    · cases h

theorem takeBytes_full : ∀ (s : Str) (e : Nat), e = utf8Len s → sliceBytes.takeBytes s e = some s
  | [], _, rfl => rfl
  | c :: cs, 0, h => by have := Char.utf8Size_pos c; rw [utf8Len_cons] at h; omega
  | c :: cs, e + 1, h => by
    rw [utf8Len_cons] at h
    rw [sliceBytes.takeBytes, if_pos (by omega), takeBytes_full cs _ (by omega)]
    rfl

theorem call_strSubstring : Builtin.call .strSubstring = substring := rfl

theorem C10_len_substring (s t : Str) (a b : Int64)
    (h : Builtin.call .strSubstring (.tuple [.string s, .int a, .int b]) = .ok (.string t)) :
    (utf8Len t : Int) = b.toInt - a.toInt := by
  rw [call_strSubstring, substring_three, substringCore] at h
  repeat' split at h
  all_goals cases h
  rename_i hn _ _ hs
  have := sliceBytes_len _ _ _ _ hs
  simp only [Bool.or_eq_true, decide_eq_true_eq, not_or] at hn
  omega

theorem substringCore_full (s : Str) : substringCore s 0 (utf8Len s) = .ok (.string s) := by
  rw [substringCore, if_neg (by simp), sliceBytes_zero, takeBytes_full s _ rfl]

theorem C10_substring_full (s : Str) (hs : utf8Len s < 2 ^ 63) :
    Builtin.call .strSubstring (.tuple [.string s, .int 0, .int (Int64.ofNat (utf8Len s))]) = .ok (.string s) := by
  rw [call_strSubstring, substring_three, Int64.toInt_zero, Int64.toInt_ofNat_of_lt hs, if_neg (by simp), Int.toNat_natCast]
  exact substringCore_full s

end Evalexpr.Spec

/-
Proofs/LexLoop.lean — the character loop as src/token/mod.rs writes it: ONE loop, `str_to_partial_tokens`, that calls
`parse_string_literal` and `try_skip_comment` and goes on behind what they have read. The Model renders it as four mutually
recursive functions that continue into each other; here they are shown to be that loop (`lexNormal_cons` is one pass through
its body), and nothing else unfolds them: the post-condition of the loop (NoPanicLex), its run on the pieces of a rendering
(LexChars) and the agreement with the translated code (AgreeFnLexer) all rest on `lexNormal_cons`.
-/
import EvalexprVerif.Model.Lexer

namespace Evalexpr.Spec
open Evalexpr

/-- `parse_string_literal` from inside a string, `s` = the characters read so far: the string token and the rest
(written like the Model's `lexString`) -/
def stringLit : List Char → Str → Res (PartialToken × List Char)
  | [], _ => .error .unmatchedDoubleQuote
  | [c], s =>
    if c == '"' then .ok (.token (.string s), [])
    else if c == '\\' then .error (.illegalEscapeSequence ['\\'])
    else stringLit [] (s ++ [c])
  | c :: e :: cs, s =>
    if c == '"' then .ok (.token (.string s), e :: cs)
    else if c == '\\' then
      if e == '"' then stringLit cs (s ++ ['"'])
      else if e == '\\' then stringLit cs (s ++ ['\\'])
      else .error (.illegalEscapeSequence ['\\', e])
    else stringLit (e :: cs) (s ++ [c])

/-- the line-comment branch of `try_skip_comment`: what is left after the end of the line -/
def lineComment : List Char → List Char
  | [] => []
  | c :: cs => if c == '\n' then cs else lineComment cs
/-- the inline-comment branch: what is left after the closing `*/`, if there is one -/
def blockComment : List Char → Option (List Char)
  | [] => none
  | [_] => none
  | c :: n :: cs => if c == '*' && n == '/' then some cs else blockComment (n :: cs)
/-- `try_skip_comment` right after a `/`: was a comment skipped, and the rest -/
def skipCommentSpec : List Char → Res (Bool × List Char)
  | [] => .ok (false, [])
  | n :: rest =>
    if n == '/' then .ok (true, lineComment rest)
    else if n == '*' then
      match blockComment rest with
      | some r => .ok (true, r)
      | none => .error unmatchedInlineComment
    else .ok (false, n :: rest)

/-- `parse_string_literal` hands back a shorter cursor, or an error that is no panic -/
theorem stringLit_post (cs : List Char) (s : Str) :
    match stringLit cs s with
    | .ok (_, rest) => rest.length < cs.length
    | .error e => e.isPanic = false := by
  induction cs, s using stringLit.induct with
  | case1 s => rfl
  | case2 c s hc => simp [stringLit, hc]
  | case3 c s hc1 hc2 => simp [stringLit, hc1, hc2]; rfl
  | case4 c s hc1 hc2 ih => simp [stringLit, hc1, hc2]; rfl
  | case5 c e cs s hc => simp [stringLit, hc]
  | case6 c e cs s hc1 hc2 he ih =>
    simp only [stringLit, hc1, hc2, he, if_true, Bool.false_eq_true, if_false]
    split <;> simp_all <;> omega
  | case7 c e cs s hc1 hc2 he1 he2 ih =>
    simp only [stringLit, hc1, hc2, he1, he2, if_true, Bool.false_eq_true, if_false]
    split <;> simp_all <;> omega
  | case8 c e cs s hc1 hc2 he1 he2 => simp [stringLit, hc1, hc2, he1, he2]; rfl
  | case9 c e cs s hc1 hc2 ih =>
    simp only [stringLit, hc1, hc2, Bool.false_eq_true, if_false]
    split <;> simp_all <;> omega

theorem lineComment_length (cs : List Char) : (lineComment cs).length ≤ cs.length := by
  induction cs with
  | nil => simp [lineComment]
  | cons c cs ih => by_cases h : (c == '\n') = true <;> simp [lineComment, h] <;> omega
theorem blockComment_length (cs r : List Char) (h : blockComment cs = some r) : r.length ≤ cs.length := by
  induction cs using blockComment.induct with
  | case1 => simp [blockComment] at h
  | case2 c => simp [blockComment] at h
  | case3 c n cs hc => simp [blockComment, hc] at h; simp [← h]; omega
  | case4 c n cs hc ih => simp [blockComment, hc] at h; have := ih h; simp at this ⊢; omega

/-- `try_skip_comment` hands back a cursor that is not longer, or the error of an unclosed `/*` -/
theorem skipCommentSpec_post (cs : List Char) :
    match skipCommentSpec cs with
    | .ok (_, rest) => rest.length ≤ cs.length
    | .error e => e.isPanic = false := by
  rcases cs with _ | ⟨n, cs⟩
  · exact Nat.le_refl 0
  · by_cases h1 : (n == '/') = true
    · -- `//`: the rest of the line is skipped
      have := lineComment_length cs
      simp only [skipCommentSpec, h1, if_true, List.length_cons]; omega
    · by_cases h2 : (n == '*') = true
      · -- `/*`: closed somewhere, or an error
        simp only [skipCommentSpec, h1, h2, if_true]
        cases hb : blockComment cs with
        | none => rfl
        | some r =>
          have := blockComment_length cs r hb
          show r.length ≤ cs.length + 1
          omega
      · -- no comment: nothing is read
        simp only [skipCommentSpec, h1, h2]
        exact Nat.le_refl _

theorem lexString_eq (cs : List Char) (s : Str) (acc : List PartialToken) :
    lexString cs s acc = match stringLit cs s with
      | .error e => .error e
      | .ok (tok, rest) => lexNormal rest (tok :: acc) := by
  induction cs, s using stringLit.induct <;> simp_all [stringLit, lexString]
theorem lexLine_eq (cs : List Char) (acc : List PartialToken) :
    lexLine cs acc = lexNormal (lineComment cs) (.whitespace :: acc) := by
  induction cs with
  | nil => simp [lexLine, lineComment]
  | cons c cs ih => by_cases h : (c == '\n') = true <;> simp [lexLine, lineComment, h, ih]
theorem lexBlock_eq (cs : List Char) (acc : List PartialToken) :
    lexBlock cs acc = match blockComment cs with
      | some r => lexNormal r (.whitespace :: acc)
      | none => .error unmatchedInlineComment := by
  induction cs using blockComment.induct with
  | case1 => simp [blockComment, lexBlock]
  | case2 c => simp [blockComment, lexBlock]
  | case3 c n cs h => simp [blockComment, lexBlock, h]
  | case4 c n cs h ih => simp [blockComment, lexBlock, h, ih]

theorem lexNormal_nil (acc : List PartialToken) : lexNormal [] acc = .ok acc.reverse :=
  lexNormal.eq_1 acc

/-- one pass through the body of the loop of `str_to_partial_tokens` -/
theorem lexNormal_cons (c : Char) (cs : List Char) (acc : List PartialToken) :
    lexNormal (c :: cs) acc =
      if c == '"' then
        match stringLit cs [] with
        | .error e => .error e
        | .ok (tok, rest) => lexNormal rest (tok :: acc)
      else if c == '/' then
        match skipCommentSpec cs with
        | .error e => .error e
        | .ok (true, rest) => lexNormal rest (.whitespace :: acc)
        | .ok (false, rest) => lexNormal rest (pushPartial acc .slash)
      else lexNormal cs (pushPartial acc (charToPartialToken c)) := by
  rcases cs with _ | ⟨n, rest⟩
  · by_cases h1 : (c == '"') = true
    · simp [lexNormal, h1, lexString_eq]
    · by_cases h2 : (c == '/') = true
      · have : c = '/' := by simpa using h2
        subst this
        simp [lexNormal, skipCommentSpec]; rfl
      · simp [lexNormal, h1, h2]
  · by_cases h1 : (c == '"') = true
    · simp [lexNormal, h1, lexString_eq]
    · by_cases h2 : (c == '/') = true
      · by_cases h3 : (n == '/') = true
        · simp [lexNormal, h1, h2, h3, skipCommentSpec, lexLine_eq]
        · by_cases h4 : (n == '*') = true
          · simp [lexNormal, h1, h2, h3, h4, skipCommentSpec, lexBlock_eq]
            cases blockComment rest <;> rfl
          · simp [lexNormal, h1, h2, h3, h4, skipCommentSpec]
      · simp [lexNormal, h1, h2]

end Evalexpr.Spec

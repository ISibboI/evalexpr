/-
Proofs/LexRoundtrip.lean — C06 / C07: tokens in any spelling (`PrintableX`) with an admissible gap
assignment (`AdmissibleX`) lex back to themselves; hence the same for `Printable` / `Admissible`,
the token sequence is independent of the gaps, a token written alone denotes itself (string
literals, identifiers, floats with a signed exponent), and an unterminated block comment is an error.
-/
import EvalexprVerif.Proofs.LexPhase2
import EvalexprVerif.Model.Tree

namespace Evalexpr.Spec
open Evalexpr

theorem partials_cases (rest : List (Gap × PTok)) (g : Gap) :
    partials rest g = [] ∨ (∃ m, partials rest g = .whitespace :: m) ∨
    ∃ q rest', rest = ([], q) :: rest' ∧ partials rest g = ptokPartials q ++ partials rest' g := by
  cases rest with
  | nil =>
    cases g with
    | nil => exact .inl rfl
    | cons s g => exact .inr (.inl ⟨_, rfl⟩)
  | cons r rest' =>
    obtain ⟨g1, q⟩ := r
    cases g1 with
    | nil => exact .inr (.inr ⟨q, rest', rfl, rfl⟩)
    | cons s g1 => exact .inr (.inl ⟨_, rfl⟩)

/-- how the partial tokens of a token begin: with `=` only for `=` / `==`, with a literal only for a
word, and after a sign comes nothing (`+`, `-`) or `=` (`+=`, `-=`) -/
theorem ptokPartials_head (q : PTok) : ∃ a t, ptokPartials q = a :: t ∧
    (a = .eq → startsWithEq q.tok = true) ∧ (∀ w, a = .literal w → isWordTok q.tok = true) ∧
    (isPlusOrMinus a = true → isSign q.tok = true ∧ t = [] ∨ t = [.eq]) := by
  obtain ⟨tok, text⟩ := q
  cases tok
  case eq | assign => exact ⟨_, _, rfl, fun _ => rfl, nofun, nofun⟩
  case identifier | int | float | boolean => exact ⟨_, _, rfl, nofun, fun _ _ => rfl, nofun⟩
  case plus | minus => exact ⟨_, _, rfl, nofun, nofun, fun _ => .inl ⟨rfl, rfl⟩⟩
  case plusAssign | minusAssign => exact ⟨_, _, rfl, nofun, nofun, fun _ => .inr rfl⟩
  all_goals exact ⟨_, _, rfl, nofun, nofun, nofun⟩

theorem display_of_isPlusOrMinus (a : PartialToken) (h : isPlusOrMinus a = true) :
    ∃ s, a.display = [s] ∧ isSignChar s = true := by
  cases a <;> simp [isPlusOrMinus] at h
  · exact ⟨'+', rfl, by decide⟩
  · exact ⟨'-', rfl, by decide⟩

theorem literal_of_display_digits (b : PartialToken) (h : isDigits b.display = true) :
    ∃ w', b = .literal w' := by
  cases b with
  | literal w => exact ⟨w, rfl⟩
  | token t =>
    cases t
    case string s =>
      simp [isDigits, PartialToken.display, Token.displayInPartial] at h
      exact absurd h.1 (by decide)
    all_goals cases h
  | _ => exact absurd h (by decide)

theorem next_not_eq_of_admissible (g0 : Gap) (p : PTok) (rest : List (Gap × PTok)) (g : Gap)
    (ha : AdmissibleX ((g0, p) :: rest) g) (habs : absorbsEq p.tok = true) :
    (partials rest g)[0]? ≠ some .eq := by
  rcases partials_cases rest g with h | ⟨m, h⟩ | ⟨q, rest', rfl, h⟩
  · simp [h]  -- nothing follows
  · simp [h]  -- a gap follows: a whitespace
  · -- the next token `q` follows directly: if it began with `=`, the two would fuse
    obtain ⟨a, t, hq, hs, -, -⟩ := ptokPartials_head q
    rw [h, hq]
    intro hh
    simp only [List.cons_append, List.getElem?_cons_zero, Option.some.injEq] at hh
    exact ha.2.1.1 (by simp [fuses, habs, hs hh]) rfl

theorem no_float_join_of_admissible (g0 : Gap) (p : PTok) (rest : List (Gap × PTok)) (g : Gap)
    (hp : p.PrintableX) (ha : AdmissibleX ((g0, p) :: rest) g) (w : Str)
    (hw : p.tok = .identifier w) (a b : PartialToken)
    (h1 : (partials rest g)[0]? = some a) (h2 : (partials rest g)[1]? = some b)
    (hpm : isPlusOrMinus a = true) : F64.parse (w ++ a.display ++ b.display) = none := by
  apply Classical.byContradiction
  intro hne
  have hp' : p.Printable := by
    rcases hp with hp | ⟨-, f, hf, -⟩
    · exact hp
    · rw [hw] at hf; cases hf
  obtain ⟨tok, text⟩ := p
  simp only at hw
  subst hw
  obtain ⟨h0, hword, -⟩ := hp'
  dsimp only at h0
  subst h0
  obtain ⟨s, hs, hsign⟩ := display_of_isPlusOrMinus a hpm
  rw [hs, List.append_assoc, List.singleton_append] at hne
  obtain ⟨hlm, hd⟩ := parse_join text b.display s hsign hword hne
  obtain ⟨w', rfl⟩ := literal_of_display_digits b hd
  rcases partials_cases rest g with h | ⟨m, h⟩ | ⟨q, rest', rfl, h⟩
  · simp [h] at h1  -- nothing follows
  · rw [h] at h1; simp at h1; subst h1; cases hpm  -- a gap follows: `a` is a whitespace, no sign
  · -- the next token `q` follows directly and begins with the sign `a`: it is `+` / `-` (or `+=` /
    -- `-=`, then `b` is `=`, no literal), and `b` begins what follows `q`
    obtain ⟨a', t, hq, -, -, hsg⟩ := ptokPartials_head q
    rw [h, hq] at h1 h2
    simp only [List.cons_append, List.getElem?_cons_zero, Option.some.injEq] at h1
    subst h1
    rcases hsg hpm with ⟨hq', rfl⟩ | rfl
    case inr => simp at h2
    simp only [List.cons_append, List.nil_append, List.getElem?_cons_succ] at h2
    rcases partials_cases rest' g with h' | ⟨m', h'⟩ | ⟨r, rest'', rfl, h'⟩
    · simp [h'] at h2  -- nothing follows the sign
    · simp [h'] at h2  -- a gap follows the sign
    · -- a token `r` follows the sign directly and begins with the literal `b`: a word, which
      -- `AdmissibleX` excludes after `<mantissa>e` and a sign without any gap
      obtain ⟨a'', t', hr, -, hlit, -⟩ := ptokPartials_head r
      rw [h', hr] at h2
      simp only [List.cons_append, List.getElem?_cons_zero, Option.some.injEq] at h2
      rcases ha.2.1.2 hlm rfl hq' [] r rest'' rfl (hlit w' h2) with h0 | h0 <;> exact h0 rfl

theorem pttt_partials (ps : List (Gap × PTok)) (g : Gap) (hp : ∀ p ∈ ps, p.2.PrintableX)
    (ha : AdmissibleX ps g) :
    partialTokensToTokens (partials ps g) = .ok (ps.map (·.2.tok)) := by
  induction ps with
  | nil =>
    have := pttt_gapPartials g []
    simpa [partials, partialTokensToTokens] using this
  | cons r rest ih =>
    obtain ⟨g0, p⟩ := r
    have hpp : p.PrintableX := hp (g0, p) (by simp)
    have hprest : ∀ q ∈ rest, q.2.PrintableX := fun q hq => hp q (by simp [hq])
    simp only [partials, List.append_assoc]
    rw [pttt_gapPartials, pttt_ptok p hpp _ (next_not_eq_of_admissible g0 p rest g ha)
      (no_float_join_of_admissible g0 p rest g hpp ha), ih hprest ha.2.2.2]
    rfl

/-- literals in every spelling, embedded between other tokens -/
theorem C07_roundtrip_ext (ps : List (Gap × PTok)) (g : Gap)
    (hp : ∀ p ∈ ps, p.2.PrintableX) (ha : AdmissibleX ps g) :
    tokenize (renderFrom ps g) = .ok (ps.map (·.2.tok)) := by
  simp only [tokenize, strToPartialTokens_render ps g hp ha]
  exact pttt_partials ps g hp ha

theorem buildOperatorTree_render (ps : List (Gap × PTok)) (g : Gap)
    (hp : ∀ p ∈ ps, p.2.PrintableX) (ha : AdmissibleX ps g) :
    buildOperatorTree (renderFrom ps g) = tokensToOperatorTree (ps.map (·.2.tok)) := by
  unfold buildOperatorTree
  rw [C07_roundtrip_ext ps g hp ha]

theorem isWordTok_of_isIdentTok (t : Token) (h : isIdentTok t = true) : isWordTok t = true := by
  cases t <;> first | rfl | cases h

theorem admissibleX_of_admissible (ps : List (Gap × PTok)) (g : Gap) (h : Admissible ps g) :
    AdmissibleX ps g := by
  induction ps with
  | nil => exact h
  | cons r rest ih =>
    obtain ⟨g0, p⟩ := r
    obtain ⟨hv, hn, hsl, hrest⟩ := h
    refine ⟨hv, ?_, hsl, ih hrest⟩
    cases rest with
    | nil => trivial
    | cons r' rest' =>
      obtain ⟨g1, q⟩ := r'
      refine ⟨hn.1, fun hl hi hq gr r rest'' hr _ => ?_⟩
      subst hr
      exact hn.2 hl (isWordTok_of_isIdentTok _ hi) hq (by simp)

/-- main theorem: printable tokens with an admissible gap assignment lex back to themselves -/
theorem C07_roundtrip (ps : List (Gap × PTok)) (g : Gap)
    (hp : ∀ p ∈ ps, p.2.Printable) (ha : Admissible ps g) :
    tokenize (renderFrom ps g) = .ok (ps.map (·.2.tok)) :=
  C07_roundtrip_ext ps g (fun p h => .inl (hp p h)) (admissibleX_of_admissible ps g ha)

/-- corollary: the token sequence (hence the tree) does not depend on the gaps -/
theorem C07_invariance (toks : List PTok) (gs₁ gs₂ : List Gap) (g₁ g₂ : Gap)
    (h₁ : gs₁.length = toks.length) (h₂ : gs₂.length = toks.length)
    (hp : ∀ p ∈ toks, p.Printable)
    (ha₁ : Admissible (gs₁.zip toks) g₁) (ha₂ : Admissible (gs₂.zip toks) g₂) :
    tokenize (renderFrom (gs₁.zip toks) g₁) = tokenize (renderFrom (gs₂.zip toks) g₂) := by
  have hz : ∀ gs : List Gap, ∀ p ∈ gs.zip toks, p.2.Printable :=
    fun gs p hm => hp p.2 (List.of_mem_zip (a := p.1) (b := p.2) hm).2
  have hm : ∀ gs : List Gap, gs.length = toks.length →
      (gs.zip toks).map (·.2.tok) = toks.map (·.tok) := by
    intro gs hl
    have : (gs.zip toks).map (·.2.tok) = ((gs.zip toks).map Prod.snd).map (·.tok) := by simp
    rw [this, List.map_snd_zip (by omega)]
  rw [C07_roundtrip _ _ (hz gs₁) ha₁, C07_roundtrip _ _ (hz gs₂) ha₂, hm gs₁ h₁, hm gs₂ h₂]

/-- an unterminated block comment is an error -/
theorem C07_unterminated (a : List (Gap × PTok)) (g : Gap) (b : Str)
    (hp : ∀ p ∈ a, p.2.Printable) (ha : Admissible a g) (hb : hasSubstr ['*', '/'] b = false)
    (hlast : ∀ p, a.getLast? = some p → isSlash p.2.tok = false ∨ g ≠ []) :
    tokenize (renderFrom a g ++ '/' :: '*' :: b) = .error unmatchedInlineComment := by
  have h1 := lexNormal_render a g ('/' :: '*' :: b) (fun p h => .inl (hp p h))
    (admissibleX_of_admissible a g ha)
    (by
      intro p hpl hs hg
      rcases hlast p hpl with h | h
      · rw [hs] at h; cases h
      · exact absurd hg h) [] (AccOK_nil a)
  have h2 := blockComment_append b [] hb nofun
  rw [List.append_nil] at h2
  simp only [tokenize, strToPartialTokens, h1, lexNormal_block, h2, blockComment]

theorem tokenize_tight (ps : List PTok) (hp : ∀ p ∈ ps, p.PrintableX)
    (ha : AdmissibleX (ps.map fun p => (([] : Gap), p)) []) :
    tokenize (ps.flatMap (·.text)) = .ok (ps.map (·.tok)) := by
  have hr : renderFrom (ps.map fun p => (([] : Gap), p)) [] = ps.flatMap (·.text) := by
    induction ps with
    | nil => rfl
    | cons p ps ih => simp [renderFrom, Gap.text, ih (fun q hq => hp q (by simp [hq])) ha.2.2.2]
  have := C07_roundtrip_ext _ [] (by simpa using hp) ha
  rwa [hr, List.map_map] at this

theorem admissibleX_single (p : PTok) : AdmissibleX [([], p)] [] :=
  ⟨nofun, trivial, fun _ => ⟨nofun, nofun⟩, nofun⟩

/-- a token directly in front of an admissible sequence: the two neighbours do not fuse, and the
token is not a `<mantissa>e` identifier in front of a sign and a word -/
theorem admissibleX_tight (p q : PTok) (rest : List (Gap × PTok)) (g : Gap)
    (h : AdmissibleX (([], q) :: rest) g) (hf : fuses p.tok q.tok = false)
    (hm : (looksLikeMantissaE p.text && isIdentTok p.tok && isSign q.tok &&
      rest.head?.any (isWordTok ·.2.tok)) = false)
    (hs : isSlash p.tok = true → (renderFrom (([], q) :: rest) g).head? ≠ some '/' ∧
      (renderFrom (([], q) :: rest) g).head? ≠ some '*') :
    AdmissibleX (([], p) :: ([], q) :: rest) g := by
  refine ⟨nofun, ⟨fun hf' => ?_, fun h1 h2 h3 gr r rest'' hr hw => ?_⟩, hs, h⟩
  · rw [hf] at hf'; cases hf'
  · subst hr; simp [h1, h2, h3, hw] at hm

theorem tokenize_single (p : PTok) (hp : p.PrintableX) : tokenize p.text = .ok [p.tok] := by
  simpa using tokenize_tight [p] (by simpa using hp) (admissibleX_single p)

/-- a string literal denotes exactly its text -/
theorem C06_string (t : Str) : tokenize (quote t) = .ok [.string t] :=
  tokenize_single ⟨.string t, quote t⟩ (.inl rfl)

theorem printable_ident (w : Str) (hw : isWord w = true) (h1 : isDecLit w = false)
    (h2 : isHexLit w = false) (h3 : isFloatLit w = false) (h4 : w ≠ cl!"true")
    (h5 : w ≠ cl!"false") : PTok.PrintableX ⟨.identifier w, w⟩ :=
  .inl ⟨rfl, hw, C06_word w hw h1 h2 h3 h4 h5⟩

/-- a word that is no literal (`C06_word`), alone, tokenizes to an identifier -/
theorem C06_identifier (w : Str) (hw : isWord w = true) (h1 : isDecLit w = false)
    (h2 : isHexLit w = false) (h3 : isFloatLit w = false) (h4 : w ≠ cl!"true")
    (h5 : w ≠ cl!"false") :
    tokenize w = .ok [.identifier w] :=
  tokenize_single _ (printable_ident w hw h1 h2 h3 h4 h5)

theorem printableX_signed_float (m ex : Str) (hm : isMantissa m = true) (hex : isDigits ex = true)
    (e s : Char) (he : e = 'e' ∨ e = 'E') (hs : s = '+' ∨ s = '-') :
    ∃ f, F64.parse (m ++ e :: s :: ex) = some f ∧
      PTok.PrintableX ⟨.float f, m ++ e :: s :: ex⟩ := by
  obtain ⟨b, hb⟩ : ∃ b, F64.parseBits (m ++ e :: s :: ex) = some b :=
    ⟨_, parseBits_exp_signed m ex e s hm he hs hex⟩
  have hf : F64.parse (m ++ e :: s :: ex) = some (Float.ofBits b) := by rw [F64.parse, hb]; rfl
  refine ⟨_, hf, Or.inr ⟨?_, _, rfl, hf⟩⟩
  show isSignedFloatText (m ++ e :: s :: ex) = true
  unfold isSignedFloatText
  rw [splitExp_some m (s :: ex) e (notE_of_isMantissa m hm) he]
  rcases hs with rfl | rfl <;> simp [hm, hex]

/-- scientific notation with a signed exponent is split by the lexer into word, sign, word and
re-joined: `<mantissa>e±<digits>` alone tokenizes to the float `F64.parse` assigns to the joined
text -/
theorem C06_float_signed (m ex : Str) (hm : isMantissa m = true) (hex : isDigits ex = true)
    (e s : Char) (he : e = 'e' ∨ e = 'E') (hs : s = '+' ∨ s = '-') :
    ∃ f, F64.parse (m ++ e :: s :: ex) = some f ∧ tokenize (m ++ e :: s :: ex) = .ok [.float f] := by
  obtain ⟨f, hf, hp⟩ := printableX_signed_float m ex hm hex e s he hs
  exact ⟨f, hf, tokenize_single _ hp⟩

end Evalexpr.Spec

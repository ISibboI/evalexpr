/-
Proofs/BuiltinMeets.lean — property C10: every builtin meets its documented outcome (`Spec/RefBuiltin.lean`),
one case per builtin from the lemmas of the four files imported (`builtin_meets`). The errors met on the way are plain,
hence no builtin panics (C01) and none answers with an unknown-identifier error (C14).
-/
import EvalexprVerif.Proofs.BuiltinBasic
import EvalexprVerif.Proofs.BuiltinSubstring
import EvalexprVerif.Proofs.BuiltinShift
import EvalexprVerif.Proofs.BuiltinMinMax

namespace Evalexpr.Spec
open Evalexpr

/-- `as_fixed_len_tuple(n)` returns a list of exactly `n` elements: the `.panic` arms of the
builtins (`tuple[i]` out of range) are unreachable -/
theorem asFixedLenTuple_length (v : Value) (n : Nat) (t : List Value)
    (h : v.asFixedLenTuple n = .ok t) : t.length = n := by
  cases v with
  | tuple u =>
    simp only [Value.asFixedLenTuple] at h
    split at h
    · rename_i hl; cases h; simpa using hl
    · cases h
  | _ => cases h

theorem asRangedLenTuple_length (v : Value) (lo hi : Nat) (t : List Value)
    (h : v.asRangedLenTuple lo hi = .ok t) : lo ≤ t.length ∧ t.length ≤ hi := by
  cases v with
  | tuple u =>
    simp only [Value.asRangedLenTuple] at h
    split at h
    · rename_i hl; cases h; simpa using hl
    · cases h
  | _ => cases h

/-- the 49 cases, with plain errors; the two hypotheses are explained at `C10_builtin_gen` -/
theorem builtin_meets (b : Builtin) (arg : Value)
    (hsz : b = .len → SizeOk arg)
    (hl : b = .min ∨ b = .max → MixedArgs (minMaxArgs arg) → FloatOrderLaws) :
    MeetsP (b.call arg) (refBuiltin b arg) := by
  cases b with
  | ln | log2 | log10 | exp | exp2 | cos | acos | cosh | acosh | sin | asin | sinh | asinh | tan | atan
  | tanh | atanh | sqrt | cbrt | floor | round | ceil => exact meets_math1 _ arg
  | log | pow | atan2 | hypot => exact meets_math2 _ arg
  | isNan | isFinite | isInfinite | isNormal => exact meets_pred1 _ arg
  | strToLowercase | strToUppercase | strTrim => exact meets_str _ arg
  | bitand | bitor | bitxor => exact meets_int2 _ (fun a b => .value (.int _)) (fun _ _ => rfl) arg
  | shl => exact meets_int2 _ _ (meets_shift shl_exact) arg
  | shr => exact meets_int2 _ _ (meets_shift shr_exact) arg
  | bitnot => exact C10_bitnot arg
  | abs => exact C10_abs arg
  | typeof => exact C10_typeof arg
  | strFrom => exact rfl  -- both sides are `.string arg.strFrom`
  | if_ => exact C10_if arg
  | contains => exact C10_contains arg
  | containsAny => exact C10_containsAny arg
  | strSubstring => exact C10_strSubstring arg
  | len => exact meets_len arg (hsz rfl)
  | min => exact C10_min_of arg (hl (Or.inl rfl))
  | max => exact C10_max_of arg (hl (Or.inr rfl))

/-- **C10 (main), most general form.** Every builtin, on every argument value, meets the documented
outcome, given
* for `len` only: the size fits an `i64` (`SizeOk`). The reference ignores strings / tuples of ≥ 2^63 bytes / elements
  (which cannot exist), where the implementation's `from_usize` reports an `IntFromUsize` error: without the condition the
  statement is false (`C10_len_counterexample`);
* for `min` / `max` only, and only if the arguments mix ints and floats: `FloatOrderLaws`, that the `as f64` conversion never
  yields NaN and is monotone. `Int64.toFloat` is an opaque constant of core Lean, so the two facts cannot be proved; they are
  hypotheses of the statement, not axioms. The order of doubles itself is proved from core's IEEE model (Proofs/FloatOrder.lean). -/
theorem C10_builtin_gen (b : Builtin) (arg : Value)
    (hsz : b = .len → SizeOk arg)
    (hl : b = .min ∨ b = .max → MixedArgs (minMaxArgs arg) → FloatOrderLaws) :
    MeetsB (b.call arg) (refBuiltin b arg) :=
  (builtin_meets b arg hsz hl).meetsB

theorem C10_builtin (laws : FloatOrderLaws) (b : Builtin) (arg : Value) (hsz : b = .len → SizeOk arg) :
    MeetsB (b.call arg) (refBuiltin b arg) :=
  C10_builtin_gen b arg hsz (fun _ _ => laws)

theorem C10_builtin_unconditional (b : Builtin) (arg : Value)
    (h1 : b ≠ .len) (h2 : b ≠ .min) (h3 : b ≠ .max) : MeetsB (b.call arg) (refBuiltin b arg) :=
  C10_builtin_gen b arg (fun h => (h1 h).elim) (fun h => (h.elim h2 h3).elim)

/-- the side condition on `len` cannot be dropped: a tuple of 2^63 elements -/
theorem C10_len_counterexample :
    ¬ MeetsB (Builtin.call .len (.tuple (List.replicate (2 ^ 63) .empty)))
        (refBuiltin .len (.tuple (List.replicate (2 ^ 63) .empty))) := by
  intro h
  have h1 : Builtin.call .len (.tuple (List.replicate (2 ^ 63) .empty)) =
      (intFromUsize (List.replicate (2 ^ 63) Value.empty).length).map .int := rfl
  rw [h1, List.length_replicate] at h
  have h2 : intFromUsize (2 ^ 63) = .error (.intFromUsize (2 ^ 63)) := by
    unfold intFromUsize; rw [if_neg (by decide)]
  rw [h2] at h
  cases h

/-- Every error a builtin answers with is plain: the panic arms of the model (`tuple[i]` after a length check) are never
reached. `len`, `min`, `max` are taken apart from the other 46 because their claim has a side condition, this has none. -/
theorem plain_builtin_call (b : Builtin) (arg : Value) : Plain (b.call arg) := by
  by_cases h1 : b = .len
  · rw [h1]; exact plain_len arg
  · by_cases h2 : b = .min
    · rw [h2]; exact plain_minMax i64min F64.fmin (fun i f => i < f) arg
    · by_cases h3 : b = .max
      · rw [h3]; exact plain_minMax i64max F64.fmax (fun i f => i > f) arg
      · exact (builtin_meets b arg (fun h => (h1 h).elim) (fun h => (h.elim h2 h3).elim)).plain

theorem C10_no_panic (b : Builtin) (arg : Value) : (b.call arg).isPanic = false :=
  (plain_builtin_call b arg).not_panic

theorem clean_builtin_call (b : Builtin) (arg : Value) : Clean (b.call arg) :=
  (plain_builtin_call b arg).clean

end Evalexpr.Spec

/-
Proofs/EvalOrder.lean — properties C08 (strict left-to-right evaluation, first error wins),
C11 (read-only evaluation), C15 (schedule independence), C13 (deficient trees never evaluate)
of the evaluator model.
-/
import EvalexprVerif.Spec.BigStep
import EvalexprVerif.Spec.WellFormed
import EvalexprVerif.Proofs.EvalOps
import EvalexprVerif.Proofs.EvalInduction

namespace Evalexpr.Spec
open Evalexpr

/-- `evalG_ind` read with the big-step relation: its rules are the premises -/
theorem evalG_sound :
    (∀ n s, Eval n s (evalG Operator.evalMut n s).1 (evalG Operator.evalMut n s).2) ∧
      ∀ cs s, EvalList cs s (evalGList Operator.evalMut cs s).1 (evalGList Operator.evalMut cs s).2 :=
  evalG_ind Operator.evalMut (P := fun n s p => Eval n s p.1 p.2)
    (PL := fun cs s p => EvalList cs s p.1 p.2)
    (apply := fun op cs s args s' => .apply op cs s s' args)
    (childError := fun op cs s e s' => .childError op cs s s' e) (nil := .nil)
    (consError := fun c cs s e s' => .consError c cs s s' e)
    (consOk := fun c cs s s₁ s₂ v vs => .consOk c cs s s₁ s₂ v vs)
    (consOkError := fun c cs s s₁ s₂ v e => .consOkError c cs s s₁ s₂ v e)

theorem C08_sound (n : Node) (s : St) : Eval n s (n.evalMut s).1 (n.evalMut s).2 := by
  rw [evalMut_eq_evalG]; exact evalG_sound.1 n s
theorem C08_soundList (cs : List Node) (s : St) :
    EvalList cs s (evalMutList cs s).1 (evalMutList cs s).2 := by
  rw [evalMutList_eq_evalGList]; exact evalG_sound.2 cs s

mutual
theorem C08_complete (n : Node) (s s' : St) (r : Res Value) (h : Eval n s r s') :
    n.evalMut s = (r, s') :=
  match n, h with
  | ⟨op, cs⟩, h => by
    rw [Node.evalMut]
    cases h with
    | apply _ _ _ s₁ args hl => rw [C08_completeList cs s s₁ _ hl]
    | childError _ _ _ _ e hl => rw [C08_completeList cs s s' _ hl]
theorem C08_completeList (cs : List Node) (s s' : St) (r : Res (List Value))
    (h : EvalList cs s r s') : evalMutList cs s = (r, s') :=
  match cs, h with
  | [], h => by
    cases h; rw [evalMutList]
  | c :: cs, h => by
    rw [evalMutList]
    cases h with
    | consError _ _ _ _ e hc => rw [C08_complete c s s' _ hc]
    | consOk _ _ _ s₁ _ v vs hc hl =>
      rw [C08_complete c s s₁ _ hc]; simp only; rw [C08_completeList cs s₁ s' _ hl]
    | consOkError _ _ _ s₁ _ v e hc hl =>
      rw [C08_complete c s s₁ _ hc]; simp only; rw [C08_completeList cs s₁ s' _ hl]
end

theorem C08_adequate (n : Node) (s s' : St) (r : Res Value) :
    Eval n s r s' ↔ n.evalMut s = (r, s') := by
  constructor
  · exact C08_complete n s s' r
  · intro h
    have := C08_sound n s
    rw [h] at this
    exact this

theorem C08_deterministic (n : Node) (s s₁ s₂ : St) (r₁ r₂ : Res Value)
    (h₁ : Eval n s r₁ s₁) (h₂ : Eval n s r₂ s₂) : r₁ = r₂ ∧ s₁ = s₂ := by
  have e₁ := C08_complete n s s₁ r₁ h₁
  have e₂ := C08_complete n s s₂ r₂ h₂
  rw [e₁] at e₂
  exact ⟨congrArg Prod.fst e₂, congrArg Prod.snd e₂⟩

theorem EvalList.first_error {pre : List Node} (post : List Node) {k : Node} {s s₁ s₂ : St}
    {vs : List Value} {e : Err} (hpre : EvalList pre s (.ok vs) s₁) (hk : Eval k s₁ (.error e) s₂) :
    EvalList (pre ++ k :: post) s (.error e) s₂ := by
  induction pre generalizing s vs with
  | nil => cases hpre; exact .consError _ _ _ _ _ hk
  | cons c pre ih =>
    cases hpre with
    | consOk _ _ _ _ _ _ _ hc hl => exact .consOkError _ _ _ _ _ _ _ hc (ih hl)

theorem C08_first_error (op : Operator) (pre post : List Node) (k : Node) (s s₁ s₂ : St)
    (vs : List Value) (e : Err)
    (hpre : evalMutList pre s = (.ok vs, s₁)) (hk : k.evalMut s₁ = (.error e, s₂)) :
    (Node.mk op (pre ++ k :: post)).evalMut s = (.error e, s₂) := by
  have h₁ := C08_soundList pre s
  have h₂ := C08_sound k s₁
  rw [hpre] at h₁
  rw [hk] at h₂
  rw [Node.evalMut, C08_completeList _ _ _ _ (h₁.first_error post h₂)]

theorem C08_all_operands (op : Operator) (cs : List Node) (s s' : St) (vs : List Value)
    (h : evalMutList cs s = (.ok vs, s')) : (Node.mk op cs).evalMut s = op.evalMut vs s' := by
  rw [Node.evalMut, h]

theorem evalMut_rel (R : St → St → Prop) (hrefl : ∀ s, R s s)
    (htrans : ∀ a b c, R a b → R b c → R a c)
    (hop : ∀ (op : Operator) (args : List Value) (s : St), R s (op.evalMut args s).2)
    (n : Node) (s : St) : R s (n.evalMut s).2 := by
  rw [evalMut_eq_evalG]; exact (evalG_rel _ R hrefl htrans hop).1 n s
theorem evalMutList_rel (R : St → St → Prop) (hrefl : ∀ s, R s s)
    (htrans : ∀ a b c, R a b → R b c → R a c)
    (hop : ∀ (op : Operator) (args : List Value) (s : St), R s (op.evalMut args s).2)
    (cs : List Node) (s : St) : R s (evalMutList cs s).2 := by
  rw [evalMutList_eq_evalGList]; exact (evalG_rel _ R hrefl htrans hop).2 cs s

theorem evalMut_op_log (op : Operator) (args : List Value) (s : St) :
    ∃ l, (op.evalMut args s).2.log = s.log ++ l := by
  cases hk : Operator.isAssignKind op with
  | false => rw [evalMut_of_not_assign op args s hk]; exact eval_log op args s
  | true =>
    rcases evalMut_assign_shape op args s hk with ⟨e, h⟩ | ⟨id, v, c, _, h⟩ <;>
      exact ⟨[], by rw [h]; simp⟩

theorem C11_readonly (n : Node) (s : St) : (n.evalRO s).2.ctx = s.ctx := by
  rw [evalRO_eq_evalG]
  exact (evalG_rel _ (fun s s' => s'.ctx = s.ctx) (fun _ => rfl) (fun _ _ _ h₁ h₂ => h₂.trans h₁)
    eval_ctx).1 n s

theorem evalG_agree :
    (∀ n s, noAssign n = true → evalG Operator.eval n s = evalG Operator.evalMut n s) ∧
      ∀ cs s, noAssignList cs = true →
        evalGList Operator.eval cs s = evalGList Operator.evalMut cs s :=
  evalG_ind Operator.evalMut (P := fun n s p => noAssign n = true → evalG Operator.eval n s = p)
    (PL := fun cs s p => noAssignList cs = true → evalGList Operator.eval cs s = p)
    (apply := fun op cs s args s' h hn => by
      rw [noAssign, Bool.and_eq_true, Bool.not_eq_true'] at hn
      rw [evalG, h hn.2, evalMut_of_not_assign op args s' hn.1])
    (childError := fun op cs s e s' h hn => by
      rw [noAssign, Bool.and_eq_true] at hn
      rw [evalG, h hn.2])
    (nil := fun s _ => by rw [evalGList])
    (consError := fun c cs s e s' h hn => by
      rw [noAssignList, Bool.and_eq_true] at hn
      rw [evalGList, h hn.1])
    (consOk := fun c cs s s₁ s₂ v vs h h2 hn => by
      rw [noAssignList, Bool.and_eq_true] at hn
      rw [evalGList, h hn.1]
      simp only [h2 hn.2])
    (consOkError := fun c cs s s₁ s₂ v e h h2 hn => by
      rw [noAssignList, Bool.and_eq_true] at hn
      rw [evalGList, h hn.1]
      simp only [h2 hn.2])

theorem C11_agree (n : Node) (s : St) (h : noAssign n = true) : n.evalRO s = n.evalMut s := by
  rw [evalRO_eq_evalG, evalMut_eq_evalG]; exact evalG_agree.1 n s h
theorem C11_agreeList (cs : List Node) (s : St) (h : noAssignList cs = true) :
    evalROList cs s = evalMutList cs s := by
  rw [evalROList_eq_evalGList, evalMutList_eq_evalGList]; exact evalG_agree.2 cs s h

/-- the projection of property C11 on child lists -/
def projectStopList : Stop (List Value) × St → Res (List Value) × St
  | (.finished r, s) => (r, s)
  | (.reachedAssign, s) => (.error .contextNotMutable, s)

/-- what the stopped run says about the two evaluators: the read-only one computes its projection;
if it finishes, no assignment was applied and the mutable one computes the same -/
def StopSpec {α : Type} : Stop α × St → Res α × St → Res α × St → Prop
  | (.finished r, s'), ro, mu => ro = (r, s') ∧ mu = (r, s')
  | (.reachedAssign, s'), ro, _ => ro = (.error .contextNotMutable, s')

theorem evalStop_spec : (∀ n s, StopSpec (evalStop n s) (n.evalRO s) (n.evalMut s)) ∧
    ∀ cs s, StopSpec (evalStopList cs s) (evalROList cs s) (evalMutList cs s) := by
  refine evalStop.mutual_induct _ _ ?childrenStopped ?childrenError ?assignOp ?applyOp
    ?nil ?headStopped ?headError ?tailStopped ?tailError ?consOk
  -- a node, by what its children did and whether its operator assigns
  case childrenStopped =>
    intro op cs s s₁ h ih
    rw [h] at ih
    rw [evalStop, Node.evalRO, h, show evalROList cs s = _ from ih]
    rfl
  case childrenError =>
    intro op cs s e s₁ h ih
    rw [h] at ih
    rw [evalStop, Node.evalRO, Node.evalMut, h, ih.1, ih.2]
    exact ⟨rfl, rfl⟩
  case assignOp =>
    intro op cs s args s₁ h hk ih
    rw [h] at ih
    rw [evalStop, Node.evalRO, h, ih.1]
    simp only [hk, if_true]
    exact eval_of_assign op args s₁ hk
  case applyOp =>
    intro op cs s args s₁ h hk r s' hr ih
    rw [h] at ih
    rw [evalStop, Node.evalRO, Node.evalMut, h, ih.1, ih.2]
    simp only [hk, hr]
    exact ⟨evalMut_of_not_assign op args s₁ (Bool.eq_false_iff.2 hk) ▸ hr, rfl⟩
  -- a list of children, by what its head and then its tail did
  case nil =>
    intro s
    rw [evalStopList, evalROList, evalMutList]
    exact ⟨rfl, rfl⟩
  case headStopped =>
    intro c cs s s₁ h ih
    rw [h] at ih
    rw [evalStopList, evalROList, h, show c.evalRO s = _ from ih]
    rfl
  case headError =>
    intro c cs s e s₁ h ih
    rw [h] at ih
    rw [evalStopList, evalROList, evalMutList, h, ih.1, ih.2]
    exact ⟨rfl, rfl⟩
  case tailStopped =>
    intro c cs s v s₁ h s₂ h2 ih ih2
    rw [h] at ih
    rw [h2] at ih2
    rw [evalStopList, evalROList, h, ih.1]
    simp only [h2, show evalROList cs s₁ = _ from ih2]
    rfl
  case tailError =>
    intro c cs s v s₁ h e s₂ h2 ih ih2
    rw [h] at ih
    rw [h2] at ih2
    rw [evalStopList, evalROList, evalMutList, h, ih.1, ih.2]
    simp only [h2, ih2.1, ih2.2]
    exact ⟨rfl, rfl⟩
  case consOk =>
    intro c cs s v s₁ h vs s₂ h2 ih ih2
    rw [h] at ih
    rw [h2] at ih2
    rw [evalStopList, evalROList, evalMutList, h, ih.1, ih.2]
    simp only [h2, ih2.1, ih2.2]
    exact ⟨rfl, rfl⟩

theorem C11_project (n : Node) (s : St) : n.evalRO s = projectStop (evalStop n s) := by
  have h := evalStop_spec.1 n s
  generalize evalStop n s = st at h ⊢
  match st, h with
  | (.finished _, _), h => exact h.1
  | (.reachedAssign, _), h => exact h
theorem C11_projectList (cs : List Node) (s : St) :
    evalROList cs s = projectStopList (evalStopList cs s) := by
  have h := evalStop_spec.2 cs s
  generalize evalStopList cs s = st at h ⊢
  match st, h with
  | (.finished _, _), h => exact h.1
  | (.reachedAssign, _), h => exact h

theorem C11_stop_finishedList (cs : List Node) (s s' : St) (r : Res (List Value))
    (h : evalStopList cs s = (.finished r, s')) : evalMutList cs s = (r, s') := by
  have := evalStop_spec.2 cs s
  rw [h] at this
  exact this.2

theorem noStorage_setValue (h : HashMapCtx) (id : Str) (v : Value) :
    Ctx.setValue (.noStorage h) id v = .error .contextNotMutable := rfl

theorem evalMut_op_nostorage (op : Operator) (args : List Value) (s : St) (h : HashMapCtx)
    (hs : s.ctx = .noStorage h) : (op.evalMut args s).2.ctx = s.ctx := by
  cases hk : Operator.isAssignKind op with
  | false => rw [evalMut_of_not_assign op args s hk]; exact eval_ctx op args s
  | true =>
    rcases evalMut_assign_shape op args s hk with ⟨e, h'⟩ | ⟨id, v, c, hc, _⟩
    · rw [h']
    · rw [hs, noStorage_setValue] at hc; cases hc

/-- a context without variable storage rejects every assignment and is never changed -/
theorem C11_nostorage_ctx (n : Node) (s : St) (h : HashMapCtx) (hs : s.ctx = .noStorage h) :
    (n.evalMut s).2.ctx = s.ctx :=
  evalMut_rel (fun s s' => s.ctx = .noStorage h → s'.ctx = s.ctx) (fun _ _ => rfl)
    (fun a b c h₁ h₂ ha => by
      have hb := h₁ ha
      rw [h₂ (hb.trans ha), hb])
    (fun op args s hs => evalMut_op_nostorage op args s h hs) n s hs

theorem C11_nostorage_assign (op : Operator) (args : List Value) (s : St) (h : HashMapCtx)
    (hop : Operator.isAssignKind op = true) (hs : s.ctx = .noStorage h) :
    ∃ e, (op.evalMut args s).1 = .error e := by
  rcases evalMut_assign_shape op args s hop with ⟨e, h'⟩ | ⟨id, v, c, hc, _⟩
  · exact ⟨e, by rw [h']⟩
  · rw [hs, noStorage_setValue] at hc; cases hc

theorem evalG_commute (ap : Operator → List Value → St → Res Value × St) (f : St → St)
    (hap : ∀ op args s, ap op args (f s) = ((ap op args s).1, f (ap op args s).2)) :
    (∀ n s, evalG ap n (f s) = ((evalG ap n s).1, f (evalG ap n s).2)) ∧
      ∀ cs s, evalGList ap cs (f s) = ((evalGList ap cs s).1, f (evalGList ap cs s).2) :=
  evalG_ind ap (P := fun n s p => evalG ap n (f s) = (p.1, f p.2))
    (PL := fun cs s p => evalGList ap cs (f s) = (p.1, f p.2))
    (apply := fun op cs s args s' h => by rw [evalG, h]; exact hap op args s')
    (childError := fun op cs s e s' h => by rw [evalG, h])
    (nil := fun s => by rw [evalGList])
    (consError := fun c cs s e s' h => by rw [evalGList, h])
    (consOk := fun c cs s s₁ s₂ v vs h h2 => by rw [evalGList, h]; simp only [h2])
    (consOkError := fun c cs s s₁ s₂ v e h h2 => by rw [evalGList, h]; simp only [h2])

theorem evalRO_prepend (l : List (Str × Value)) (n : Node) (s : St) :
    n.evalRO (prependLog l s) = ((n.evalRO s).1, prependLog l (n.evalRO s).2) := by
  rw [evalRO_eq_evalG, evalRO_eq_evalG]
  exact (evalG_commute _ _ (eval_prepend l)).1 n s
theorem evalROList_prepend (l : List (Str × Value)) (cs : List Node) (s : St) :
    evalROList cs (prependLog l s) = ((evalROList cs s).1, prependLog l (evalROList cs s).2) := by
  rw [evalROList_eq_evalGList, evalROList_eq_evalGList]
  exact (evalG_commute _ _ (eval_prepend l)).2 cs s

/-- read-only evaluation looks at the context only: the result is the one from the empty log, the
context stays, and the calls are appended to the log the evaluation started with -/
theorem evalRO_eq (n : Node) (c : Ctx) (l : List (Str × Value)) :
    n.evalRO ⟨c, l⟩ = ((n.evalRO ⟨c, []⟩).1, ⟨c, l ++ (n.evalRO ⟨c, []⟩).2.log⟩) := by
  have h := evalRO_prepend l n ⟨c, []⟩
  rw [prependLog, prependLog, C11_readonly, List.append_nil] at h
  exact h

theorem C15_log_irrelevant (n : Node) (c : Ctx) (l : List (Str × Value)) :
    (n.evalRO ⟨c, l⟩).1 = (n.evalRO ⟨c, []⟩).1 ∧
      (n.evalRO ⟨c, l⟩).2.log = l ++ (n.evalRO ⟨c, []⟩).2.log := by
  rw [evalRO_eq]; exact ⟨rfl, rfl⟩

def runSchedule : List Node → St → List (Res Value) × St
  | [], s => ([], s)
  | j :: js, s =>
    let (r, s₁) := j.evalRO s; let (rs, s₂) := runSchedule js s₁; (r :: rs, s₂)

theorem C15_schedule (jobs : List Node) (c : Ctx) (l : List (Str × Value)) :
    (runSchedule jobs ⟨c, l⟩).1 = jobs.map (fun j => (j.evalRO ⟨c, []⟩).1) ∧
      (runSchedule jobs ⟨c, l⟩).2.ctx = c := by
  induction jobs generalizing l with
  | nil => exact ⟨rfl, rfl⟩
  | cons j js ih =>
    -- the next job starts from the same context, with a longer log
    rw [runSchedule, evalRO_eq]
    exact ⟨congrArg _ (ih _).1, (ih _).2⟩

/-- for every `ap` that rejects a wrong number of arguments, read from the result: a successful
evaluation shows that no operator of the tree has a wrong number of operands; a list of children
yields as many values as it has members, which is what the operator case needs -/
theorem evalG_sufficient (ap : Operator → List Value → St → Res Value × St)
    (hap : ∀ op args s n, op.maxArgumentAmount = some n → op.isRoot = false → args.length ≠ n →
      ∃ e, (ap op args s).1 = .error e) :
    (∀ n s v, (evalG ap n s).1 = .ok v → deficient n = false) ∧
      ∀ cs s vs, (evalGList ap cs s).1 = .ok vs →
        deficientList cs = false ∧ vs.length = cs.length :=
  evalG_ind ap (P := fun n _ p => ∀ v, p.1 = .ok v → deficient n = false)
    (PL := fun cs _ p => ∀ vs, p.1 = .ok vs → deficientList cs = false ∧ vs.length = cs.length)
    (apply := fun op cs s args s' h v hv => by
      rw [deficient, (h args rfl).1, Bool.or_false]
      cases hn : op.maxArgumentAmount with
      | none => rfl
      | some n =>
        cases hr : op.isRoot with
        | true => rfl
        | false =>
          -- were the arity of `op` itself wrong, `ap` would have failed
          refine Bool.and_eq_false_imp.2 fun _ =>
            bne_eq_false_iff_eq.2 (Decidable.by_contra fun hl => ?_)
          rcases hap op args s' n hn hr ((h args rfl).2 ▸ hl) with ⟨e, he⟩
          rw [he] at hv
          cases hv)
    (childError := fun _ _ _ _ _ _ _ hv => nomatch hv)
    (nil := fun _ _ hv => by cases hv; exact ⟨rfl, rfl⟩)
    (consError := fun _ _ _ _ _ _ _ hv => nomatch hv)
    (consOk := fun c cs _ _ _ v vs h h2 _ hv => by
      cases hv
      rw [deficientList, h v rfl, (h2 vs rfl).1, List.length_cons, List.length_cons, (h2 vs rfl).2]
      exact ⟨rfl, rfl⟩)
    (consOkError := fun _ _ _ _ _ _ _ _ _ _ hv => nomatch hv)

theorem error_of_not_ok {α : Type} {r : Res α} (h : ∀ v, r ≠ .ok v) : ∃ e, r = .error e := by
  cases r with
  | ok v => exact absurd rfl (h v)
  | error e => exact ⟨e, rfl⟩

theorem deficientList_error (cs : List Node) (h : deficientList cs = true) (s : St) :
    (∃ e, (evalMutList cs s).1 = .error e) ∧ (∃ e, (evalROList cs s).1 = .error e) := by
  rw [evalMutList_eq_evalGList, evalROList_eq_evalGList]
  have hm := evalG_sufficient Operator.evalMut fun _ _ _ _ a b c => (arity_error _ _ _ _ a b c).1
  have hr := evalG_sufficient Operator.eval fun _ _ _ _ a b c => (arity_error _ _ _ _ a b c).2
  exact ⟨error_of_not_ok fun v hv => Bool.false_ne_true ((hm.2 cs s v hv).1.symm.trans h),
    error_of_not_ok fun v hv => Bool.false_ne_true ((hr.2 cs s v hv).1.symm.trans h)⟩

theorem C13_deficient (t : Node) (h : deficient t = true) (s : St) :
    (∀ v, (t.evalMut s).1 ≠ .ok v) ∧ (∀ v, (t.evalRO s).1 ≠ .ok v) := by
  rw [evalMut_eq_evalG, evalRO_eq_evalG]
  have hm := evalG_sufficient Operator.evalMut fun _ _ _ _ a b c => (arity_error _ _ _ _ a b c).1
  have hr := evalG_sufficient Operator.eval fun _ _ _ _ a b c => (arity_error _ _ _ _ a b c).2
  exact ⟨fun v hv => Bool.false_ne_true ((hm.1 t s v hv).symm.trans h),
    fun v hv => Bool.false_ne_true ((hr.1 t s v hv).symm.trans h)⟩

end Evalexpr.Spec

/-
Proofs/LexPhase2.lean — phase 2 of C07: `partialTokensToTokens` maps the partial tokens of one
token, followed by anything that does not combine with them, back to the token.
-/
import EvalexprVerif.Proofs.LexPhase1
import EvalexprVerif.Proofs.NoPanicLex

namespace Evalexpr.Spec
open Evalexpr

theorem pttt_step (a : PartialToken) (rest : List PartialToken) (t : Token) (k : Nat)
    (h : tokenStep a rest[0]? rest[1]? = .ok (some t, k)) :
    partialTokensToTokens (a :: rest) = (partialTokensToTokens (rest.drop (k - 1))).map (t :: ·) := by
  rw [partialTokensToTokens_cons, h]; rfl

theorem pttt_whitespace (l : List PartialToken) :
    partialTokensToTokens (.whitespace :: l) = partialTokensToTokens l := by
  rw [partialTokensToTokens_cons]
  show Except.map (fun x => x) (partialTokensToTokens l) = _
  cases partialTokensToTokens l <;> rfl

theorem pttt_gapPartials (g : Gap) (l : List PartialToken) :
    partialTokensToTokens (gapPartials g ++ l) = partialTokensToTokens l := by
  induction g with
  | nil => rfl
  | cons s g ih =>
    show partialTokensToTokens (.whitespace :: (gapPartials g ++ l)) = _
    rw [pttt_whitespace, ih]

theorem tokenStep_ident (w : Str) (s t : Option PartialToken) (hw : lexWord w = none)
    (h : ∀ a b, s = some a → t = some b → isPlusOrMinus a = true →
      F64.parse (w ++ a.display ++ b.display) = none) :
    tokenStep (.literal w) s t = .ok (some (.identifier w), 1) := by
  simp only [tokenStep, hw]
  split
  · rename_i a b
    split
    · rename_i hpm
      rw [h a b rfl rfl hpm]
    · rfl
  · rfl

/-- one token: its partial tokens are read back as the token, provided what follows does not
combine with them: no `=` after an operator that absorbs one, and no sign and digits that would
complete an identifier to a float -/
theorem pttt_ptok (p : PTok) (hp : p.PrintableX) (l : List PartialToken)
    (hEq : absorbsEq p.tok = true → l[0]? ≠ some .eq)
    (hId : ∀ w, p.tok = .identifier w → ∀ a b, l[0]? = some a → l[1]? = some b →
      isPlusOrMinus a = true → F64.parse (w ++ a.display ++ b.display) = none) :
    partialTokensToTokens (ptokPartials p ++ l) = (partialTokensToTokens l).map (p.tok :: ·) := by
  rcases hp with hp | ⟨hs, f, hf, hparse⟩
  -- a `Printable` token
  · obtain ⟨tok, text⟩ := p
    replace hEq : absorbsEq tok = true → l[0]? ≠ some .eq := hEq
    cases tok
    case identifier w =>
      obtain ⟨h1, -, h3⟩ := hp
      dsimp only at h1
      subst h1
      exact pttt_step _ l _ 1 (tokenStep_ident _ _ _ h3 (hId _ rfl))
    case int | float | boolean =>
      rw [(ptokPartials_word _ hp rfl).2]
      refine pttt_step _ l _ 1 ?_
      simp only [tokenStep, hp.2]
    -- one partial token that a following `=` would extend
    case plus | minus | star | slash | percent | hat | assign | not | gt | lt =>
      have := hEq rfl
      refine pttt_step _ l _ 1 ?_
      simp only [tokenStep]
    -- `&&` / `||`, which a following `=` would extend
    case and | or =>
      have := hEq rfl
      refine pttt_step _ (_ :: l) _ 2 ?_
      simp only [tokenStep, List.getElem?_cons_zero, List.getElem?_cons_succ]
    -- a token already in phase 1
    case string | lBrace | rBrace | comma | semicolon => exact pttt_step _ l _ 1 rfl
    -- two or three partial tokens that `tokenStep` combines whatever follows
    case eq | neq | geq | leq | plusAssign | minusAssign | starAssign | slashAssign | percentAssign |
        hatAssign => exact pttt_step _ (_ :: l) _ 2 rfl
    case andAssign | orAssign => exact pttt_step _ (_ :: _ :: l) _ 3 rfl
  -- a float with a signed exponent: `<mantissa>e` is no literal, and the three pieces parse to `f`
  · obtain ⟨m, e, s, ex, ht, hm, he, hsg, hex, hpx⟩ := printableX_signed p hs f hf
    obtain ⟨sp, hsp1, hsp2, hsp3, -⟩ := sign_partial s hsg
    have hlw := (mantissaE_word m e hm he).2
    have h2 : tokenStep (.literal (m ++ [e])) (some sp) (some (.literal ex)) =
        .ok (some (.float f), 3) := by
      have e2 : m ++ [e] ++ [s] ++ ex = p.text := by rw [ht]; simp
      simp only [tokenStep, hlw, hsp2, ↓reduceIte, hsp3, PartialToken.display.eq_2, e2, hparse]
    rw [hpx, hsp1, hf]
    exact pttt_step _ (_ :: _ :: l) _ 3 h2

end Evalexpr.Spec

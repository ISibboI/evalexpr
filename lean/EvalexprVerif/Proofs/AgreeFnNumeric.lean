/-
Proofs/AgreeFnNumeric.lean — src/value/numeric_types/default_numeric_types.rs as translated on this run
(`Generated/FnNumericTypes.lean`: `impl EvalexprNumericTypes for DefaultNumericTypes`;
`Generated/FnNumeric.lean`: `impl EvalexprInt for i64`, `impl EvalexprFloat for f64`) against
`Model/Value.lean` (`checkedAdd` …, `checkedAbs`, `intFromUsize`, `intIntoUsize`) and the functions the
Model's builtins apply (`Model/Builtin.lean`, `Model/F64.lean`). The std methods of the primitives
(`i64::checked_add`, `f64::ln`, …) are the boundary here (Prelude `Rs.i64_*`, Lean `Float`, libm bindings).
Not translated: `random` (cfg attributes inside the body).
-/
import EvalexprVerif.Generated.FnNumeric
import EvalexprVerif.Translate.Attr
import EvalexprVerif.Proofs.ValueOps

namespace Evalexpr.AgreeFn
open Evalexpr

/-! ### `impl EvalexprNumericTypes for DefaultNumericTypes` -/
theorem fn_int_as_float_agree (i : Int64) : Gen.DefaultNumericTypes.int_as_float i = i.toFloat := rfl
theorem fn_float_as_int_agree (f : Float) : Gen.DefaultNumericTypes.float_as_int f = f.toInt64 := rfl

theorem fn_Value_from_int_agree (i : Int64) : Gen.Value.from_int i = .int i := rfl

/-! ### `impl EvalexprInt for i64` -/

/-! Each trait method asks the std method and turns `None` into the operation's error; the Model tests the divisor first and
then `i64Of` of the exact result. Both are unfolded and the `i64Of …` they share is split as a variable. -/

theorem fn_i64_checked_add_agree (a b : Int64) : Gen.i64.checked_add a b = checkedAdd a b := by
  unfold Gen.i64.checked_add Rs.i64_checked_add checkedAdd
  cases i64Of (a.toInt + b.toInt) <;> eq_refl
theorem fn_i64_checked_sub_agree (a b : Int64) : Gen.i64.checked_sub a b = checkedSub a b := by
  unfold Gen.i64.checked_sub Rs.i64_checked_sub checkedSub
  cases i64Of (a.toInt - b.toInt) <;> eq_refl
theorem fn_i64_checked_mul_agree (a b : Int64) : Gen.i64.checked_mul a b = checkedMul a b := by
  unfold Gen.i64.checked_mul Rs.i64_checked_mul checkedMul
  cases i64Of (a.toInt * b.toInt) <;> eq_refl
theorem fn_i64_checked_div_agree (a b : Int64) : Gen.i64.checked_div a b = checkedDiv a b := by
  unfold Gen.i64.checked_div Rs.i64_checked_div checkedDiv
  -- the divisor is zero, or the quotient fits or not
  split
  · rfl
  · cases i64Of (a.toInt.tdiv b.toInt) <;> eq_refl
theorem fn_i64_checked_rem_agree (a b : Int64) : Gen.i64.checked_rem a b = checkedRem a b := by
  unfold Gen.i64.checked_rem Rs.i64_checked_rem checkedRem
  -- the divisor is zero; `MIN % -1`; else the remainder fits or not
  split
  · rfl
  · split
    · rfl
    · cases i64Of (a.toInt.tmod b.toInt) <;> eq_refl
theorem fn_i64_checked_neg_agree (a : Int64) : Gen.i64.checked_neg a = checkedNeg a := by
  unfold Gen.i64.checked_neg Rs.i64_checked_neg checkedNeg
  cases i64Of (-a.toInt) <;> eq_refl

/-- `abs`: `i64Of ↑(natAbs _)` must never be reduced for a symbolic argument (kernel note in Proofs/ValueOps.lean), so the
translated function is unfolded as a *function* too, and the answer of the std call is a variable on both sides. -/
theorem abs_of (a : Int64) (o : Option Int64) (hg : Rs.i64_checked_abs a = o) (hm : i64Of (a.toInt.natAbs : Int) = o) :
    Gen.i64.abs a = checkedAbs a := by
  have G := congrFun (by delta Gen.i64.abs; exact rfl : Gen.i64.abs = _) a
  rw [checkedAbs_of a o hm, G, hg]
  cases o <;> eq_refl

theorem fn_i64_abs_agree (a : Int64) : Gen.i64.abs a = checkedAbs a := abs_of a _ rfl rfl

theorem fn_i64_bitand_agree (a b : Int64) : Gen.i64.bitand a b = a &&& b := rfl
theorem fn_i64_bitor_agree (a b : Int64) : Gen.i64.bitor a b = a ||| b := rfl
theorem fn_i64_bitxor_agree (a b : Int64) : Gen.i64.bitxor a b = a ^^^ b := rfl
theorem fn_i64_bitnot_agree (a : Int64) : Gen.i64.bitnot a = ~~~a := rfl

/-! `bit_shift_left` / `bit_shift_right`: `self.wrapping_shl(*rhs as u32)` (shift by the low 6 bits of `rhs`) against Lean's
`Int64` shifts (shift by `rhs.toBitVec.smod 64`), which the Model's `shl` / `shr` builtins use -/
theorem cast_u32_mod (k : Int64) : ((Rs.cast k : UInt32).toNat) % 64 = k.toBitVec.toNat % 64 := by
  show (k.toUInt64.toUInt32.toNat) % 64 = _
  rw [UInt64.toNat_toUInt32]
  have : k.toUInt64.toNat = k.toBitVec.toNat := rfl
  rw [this]
  omega

theorem fn_i64_bit_shift_left_agree (a b : Int64) : Gen.i64.bit_shift_left a b = a <<< b := by
  apply Int64.toBitVec_inj.1
  rw [Int64.toBitVec_shiftLeft, BitVec.shiftLeft_eq', smod64_toNat]
  show a.toBitVec <<< ((Rs.cast b : UInt32).toNat % 64) = _
  rw [cast_u32_mod]
theorem fn_i64_bit_shift_right_agree (a b : Int64) : Gen.i64.bit_shift_right a b = a >>> b := by
  apply Int64.toBitVec_inj.1
  rw [Int64.toBitVec_shiftRight, BitVec.sshiftRight_eq', smod64_toNat]
  show a.toBitVec.sshiftRight ((Rs.cast b : UInt32).toNat % 64) = _
  rw [cast_u32_mod]
theorem fn_i64_from_usize_agree (n : Nat) : Gen.i64.from_usize n = intFromUsize n := by
  simp only [Gen.i64.from_usize, intFromUsize, Rs.try_into]
  split <;> eq_refl

theorem fn_i64_into_usize_agree (i : Int64) : Gen.i64.into_usize i = intIntoUsize i := by
  unfold Gen.i64.into_usize intIntoUsize
  show (if decide (i.toInt ≥ (0 : Int64).toInt) = true then _ else _) = _
  have z : (0 : Int64).toInt = 0 := rfl
  rw [z]
  -- a non-negative `i` is its own `u64` pattern; a negative one is refused on both sides
  by_cases h : i.toInt ≥ 0
  · have h0 : (0 : Int64) ≤ i := by rw [Int64.le_iff_toInt_le]; exact h
    have e : i.toUInt64.toNat = i.toInt.toNat := by rw [Int64.toNat_toUInt64_of_le h0]; rfl
    rw [if_pos (by simpa using h), if_pos h]
    show Rs.map_err (Except.ok i.toUInt64.toNat) _ = _
    rw [e]; rfl
  · rw [if_neg (by simpa using h), if_neg h]

theorem fn_i64_from_hex_str_agree (s : Str) : Gen.i64.from_hex_str s = Rs.ofOption (F64.parseHex s) := by
  unfold Gen.i64.from_hex_str Rs.i64_from_str_radix Rs.map_err
  cases F64.parseHex s <;> eq_refl

/-! ### `impl EvalexprFloat for f64`: each trait method is the std method of the same meaning -/
theorem fn_f64_pow_agree (a b : Float) : Gen.f64.pow a b = Float.pow a b := rfl
theorem fn_f64_ln_agree (a : Float) : Gen.f64.ln a = Float.log a := rfl
theorem fn_f64_log_agree (a b : Float) : Gen.f64.log a b = F64.logBase a b := rfl
theorem fn_f64_log2_agree (a : Float) : Gen.f64.log2 a = Float.log2 a := rfl
theorem fn_f64_log10_agree (a : Float) : Gen.f64.log10 a = Float.log10 a := rfl
theorem fn_f64_exp_agree (a : Float) : Gen.f64.exp a = Float.exp a := rfl
theorem fn_f64_exp2_agree (a : Float) : Gen.f64.exp2 a = Float.exp2 a := rfl
theorem fn_f64_cos_agree (a : Float) : Gen.f64.cos a = Float.cos a := rfl
theorem fn_f64_cosh_agree (a : Float) : Gen.f64.cosh a = Float.cosh a := rfl
theorem fn_f64_acos_agree (a : Float) : Gen.f64.acos a = Float.acos a := rfl
theorem fn_f64_acosh_agree (a : Float) : Gen.f64.acosh a = F64.acosh a := rfl
theorem fn_f64_sin_agree (a : Float) : Gen.f64.sin a = Float.sin a := rfl
theorem fn_f64_sinh_agree (a : Float) : Gen.f64.sinh a = Float.sinh a := rfl
theorem fn_f64_asin_agree (a : Float) : Gen.f64.asin a = Float.asin a := rfl
theorem fn_f64_asinh_agree (a : Float) : Gen.f64.asinh a = F64.asinh a := rfl
theorem fn_f64_tan_agree (a : Float) : Gen.f64.tan a = Float.tan a := rfl
theorem fn_f64_tanh_agree (a : Float) : Gen.f64.tanh a = Float.tanh a := rfl
theorem fn_f64_atan_agree (a : Float) : Gen.f64.atan a = Float.atan a := rfl
theorem fn_f64_atanh_agree (a : Float) : Gen.f64.atanh a = F64.atanh a := rfl
theorem fn_f64_atan2_agree (a b : Float) : Gen.f64.atan2 a b = Float.atan2 a b := rfl
theorem fn_f64_sqrt_agree (a : Float) : Gen.f64.sqrt a = Float.sqrt a := rfl
theorem fn_f64_cbrt_agree (a : Float) : Gen.f64.cbrt a = Float.cbrt a := rfl
theorem fn_f64_hypot_agree (a b : Float) : Gen.f64.hypot a b = F64.hypot a b := rfl
theorem fn_f64_floor_agree (a : Float) : Gen.f64.floor a = Float.floor a := rfl
theorem fn_f64_round_agree (a : Float) : Gen.f64.round a = Float.round a := rfl
theorem fn_f64_ceil_agree (a : Float) : Gen.f64.ceil a = Float.ceil a := rfl
theorem fn_f64_is_nan_agree (a : Float) : Gen.f64.is_nan a = F64.isNaN a := rfl
theorem fn_f64_is_finite_agree (a : Float) : Gen.f64.is_finite a = F64.isFinite a := rfl
theorem fn_f64_is_infinite_agree (a : Float) : Gen.f64.is_infinite a = F64.isInfinite a := rfl
theorem fn_f64_is_normal_agree (a : Float) : Gen.f64.is_normal a = F64.isNormal a := rfl
theorem fn_f64_abs_agree (a : Float) : Gen.f64.abs a = Float.abs a := rfl
theorem fn_f64_min_agree (a b : Float) : Gen.f64.min a b = F64.fmin a b := rfl
theorem fn_f64_max_agree (a b : Float) : Gen.f64.max a b = F64.fmax a b := rfl

attribute [rs_agree] fn_int_as_float_agree fn_float_as_int_agree fn_Value_from_int_agree
  fn_i64_checked_add_agree fn_i64_checked_sub_agree fn_i64_checked_mul_agree fn_i64_checked_div_agree fn_i64_checked_rem_agree
  fn_i64_checked_neg_agree fn_i64_abs_agree fn_i64_bit_shift_left_agree fn_i64_bit_shift_right_agree fn_i64_from_usize_agree
  fn_i64_into_usize_agree fn_f64_pow_agree

end Evalexpr.AgreeFn

/-
Proofs/MalformedDefect.lean — the number of missing operands in a tree (`defect`), how an insertion
changes it, and the potential of a level of the root stack (missing operands + one for a current
item that is still empty) under the moves of Proofs/TreeLevels.lean (for C13 (ii)).
-/
import EvalexprVerif.Spec.WellFormed
import EvalexprVerif.Proofs.TreeLevels

namespace Evalexpr.Spec
open Evalexpr

/-- missing operands of one node: `arity - children` for the operators with a fixed arity other
than the parenthesis node -/
def slot (op : Operator) (k : Nat) : Nat :=
  match op.maxArgumentAmount with
  | some n => if op.isRoot then 0 else n - k
  | none => 0

mutual
/-- the number of missing operands in a tree -/
def defect : Node → Nat
  | ⟨op, cs⟩ => slot op cs.length + defectList cs
def defectList : List Node → Nat
  | [] => 0
  | c :: cs => defect c + defectList cs
end

theorem defect_mk (op : Operator) (cs : List Node) :
    defect ⟨op, cs⟩ = slot op cs.length + defectList cs := by rw [defect]

theorem defect_eq (n : Node) : defect n = slot n.op n.children.length + defectList n.children := by
  cases n; rw [defect]

@[simp] theorem defectList_nil : defectList [] = 0 := by rw [defectList]
@[simp] theorem defectList_cons (c : Node) (cs : List Node) :
    defectList (c :: cs) = defect c + defectList cs := by rw [defectList]

@[simp] theorem defectList_append (a b : List Node) :
    defectList (a ++ b) = defectList a + defectList b := by
  induction a with
  | nil => simp
  | cons c a ih => simp [ih]; omega

theorem defect_new (op : Operator) : defect (Node.new op) = slot op 0 := by
  simp [Node.new, defect_mk]

theorem slot_succ (op : Operator) (k : Nat) : slot op (k + 1) + 1 ≥ slot op k := by
  unfold slot
  split
  · split <;> omega
  · omega

theorem slot_root {op : Operator} (h : op.isRoot = true) (k : Nat) : slot op k = 0 := by
  unfold slot
  split <;> simp [h]

theorem slot_seq {op : Operator} (h : op.isSequence = true) (k : Nat) : slot op k = 0 := by
  have : op.maxArgumentAmount = none := by
    rcases seq_kind h with hk | hk <;> simp [Operator.maxArgumentAmount, hk, OpKind.maxArgumentAmount]
  unfold slot; rw [this]

mutual
theorem defect_pos_deficient : ∀ (t : Node), 0 < defect t → deficient t = true
  | ⟨op, cs⟩, h => by
    rw [defect] at h
    rw [deficient]
    by_cases h1 : 0 < slot op cs.length
    · have : (match op.maxArgumentAmount with
          | some n => !op.isRoot && cs.length != n
          | none => false) = true := by
        unfold slot at h1
        split at h1
        · split at h1
          · omega
          · rename_i n _ hr
            simp [hr]; omega
        · omega
      rw [Bool.or_eq_true]; exact .inl this
    · have h2 : 0 < defectList cs := by omega
      simp [defectList_pos_deficient cs h2]
theorem defectList_pos_deficient : ∀ (cs : List Node), 0 < defectList cs → deficientList cs = true
  | [], h => by simp at h
  | c :: cs, h => by
    rw [defectList] at h
    rw [deficientList]
    by_cases h1 : 0 < defect c
    · simp [defect_pos_deficient c h1]
    · have h2 : 0 < defectList cs := by omega
      simp [defectList_pos_deficient cs h2]
end

/-- an empty parenthesis node is an open operand position -/
def openSlot (n : Node) : Nat := if n.op.isRoot && n.children.isEmpty then 1 else 0

theorem openSlot_le (n : Node) : openSlot n ≤ 1 := by unfold openSlot; split <;> omega

theorem openSlot_nonempty {n : Node} (h : n.children ≠ []) : openSlot n = 0 := by
  unfold openSlot
  cases hc : n.children with
  | nil => exact absurd hc h
  | cons _ _ => simp

/-- an insertion fills the open position of the node and at most one missing operand, and brings
the missing operands of the inserted node -/
theorem Ins.defect_le {node n n' : Node} (h : Ins node n n') :
    defect n + openSlot n + defect node ≤ defect n' + 1 := by
  induction h with
  | app op cs =>
    have := slot_succ op cs.length
    simp only [defect_mk, defectList_append, defectList_cons, defectList_nil, List.length_append,
      List.length_singleton]
    unfold openSlot
    split
    · rename_i hr
      simp only [Bool.and_eq_true] at hr
      rw [slot_root hr.1, slot_root hr.1]; omega
    · omega
  | down op pre _ ih =>
    rw [openSlot_nonempty (by simp)]
    simp only [defect_mk, defectList_append, defectList_cons, defectList_nil, List.length_append,
      List.length_singleton] at ih ⊢
    omega
  | rot op pre c =>
    have := slot_succ node.op node.children.length
    rw [openSlot_nonempty (by simp), defect_eq node]
    simp only [defect_mk, defectList_append, defectList_cons, defectList_nil, List.length_append,
      List.length_singleton]
    omega

theorem rootNode_defect : defect Node.rootNode = 0 := by
  rw [Node.rootNode, defect_mk, slot_root rfl]; simp

theorem rootNode_open : openSlot Node.rootNode = 1 := rfl

/-- the open operand position of the current item -/
def Lvl.open (L : Lvl) : Nat := openSlot L.item

def Lvl.pot (L : Lvl) : Nat := defect L.collapse + L.open

theorem defect_fill (g : Frame) (x : Node) :
    defect (g.fill x) = slot g.op (g.left.length + 1) + defectList g.left + defect x := by
  simp only [Frame.fill, defect_mk, defectList_append, defectList_cons, defectList_nil,
    List.length_append, List.length_singleton]; omega

/-- a frame adds the same to whatever fills it -/
theorem close_defect (gs : List Frame) (x y : Node) :
    defect (close gs x) + defect y = defect (close gs y) + defect x := by
  induction gs generalizing x y with
  | nil => exact Nat.add_comm _ _
  | cons g gs ih =>
    have := ih (g.fill x) (g.fill y)
    rw [defect_fill, defect_fill] at this
    rw [close, close]; omega

theorem close_defect_le (gs : List Frame) {x x' : Node} (h : defect x ≤ defect x') :
    defect (close gs x) ≤ defect (close gs x') := by
  have := close_defect gs x x'; omega

theorem rootLvl_pot : Lvl.fresh.pot = 1 := by
  simp only [Lvl.pot, Lvl.collapse, Lvl.fresh, Ctx.frames, close, Lvl.open, Lvl.item,
    show defect ⟨.rootNode, []⟩ = 0 from rootNode_defect,
    show openSlot ⟨.rootNode, []⟩ = 1 from rfl]

/-- an insertion into the current item closes its open position and pays for all but one of the
missing operands of the node -/
theorem ins_pot {L : Lvl} {node : Node} {cs : List Node} (h : Ins node L.item ⟨.rootNode, cs⟩) :
    (Lvl.mk L.ctx cs).open = 0 ∧ L.pot + defect node ≤ (Lvl.mk L.ctx cs).pot + 1 := by
  have h1 := close_defect L.ctx.frames ⟨.rootNode, cs⟩ L.item
  have h2 := h.defect_le
  have h3 := openSlot_nonempty h.children_ne
  refine ⟨h3, ?_⟩
  simp only [Lvl.pot, Lvl.collapse, Lvl.open, Lvl.item] at h1 h2 h3 ⊢
  omega

/-- a separator keeps all the nodes of the level: the item (`,`) or the member (`;`) moves under a
sequence node, which misses no operand, and an empty item follows it -/
theorem Lvl.sep_defect (semi : Bool) (L : Lvl) :
    defect L.collapse ≤ defect (L.sep semi).collapse := by
  have hpair : ∀ op x, defect x ≤ defect ⟨op, [x, Node.rootNode]⟩ := fun op x => by
    simp only [defect_mk, defectList_cons]; omega
  have hsnoc : ∀ {op l}, op.isSequence = true →
      defect ⟨op, l⟩ ≤ defect ⟨op, l ++ [Node.rootNode]⟩ :=
    fun h => by simp only [defect_mk, slot_seq h, defectList_append]; omega
  -- before the first separator the new sequence node stands in a fresh parenthesis node
  have hfirst : ∀ op, defect L.item ≤ defect (close [R] ⟨op, [L.item, Node.rootNode]⟩) :=
    fun op => by
    have := hpair op L.item
    simp only [close, defect_fill]; omega
  obtain ⟨⟨_ | t, _ | c⟩, cs⟩ := L <;> cases semi
  -- `,` before any separator
  · exact hfirst _
  -- `;` before any separator
  · exact hfirst _
  -- `,` on an open chain: a new tuple over the item
  · exact close_defect_le [⟨.chain, c⟩, R] (hpair .tuple _)
  -- `;` on an open chain: one more member
  · exact close_defect_le [R] (hsnoc rfl)
  -- `,` on an open tuple: one more element
  · exact close_defect_le [R] (hsnoc rfl)
  -- `;` on an open tuple: a new chain over it
  · exact close_defect_le [R] (hpair .chain _)
  -- `,` on a tuple in a chain: one more element
  · exact close_defect_le [⟨.chain, c⟩, R] (hsnoc rfl)
  -- `;` on a tuple in a chain: the tuple is one more member
  · exact close_defect_le [R] (hsnoc rfl)

end Evalexpr.Spec

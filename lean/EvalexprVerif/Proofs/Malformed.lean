/-
Proofs/Malformed.lean — C13 (ii): an operator that lacks an operand leaves a deficient tree. The
potential of the root stack (missing operands of all nodes + one for every level whose current item
is still empty, Proofs/MalformedDefect.lean) pays for every open parenthesis level, for an awaited
operand, and for a violation seen so far (`Inv`); the moves of Proofs/TreeLevels.lean preserve this
(`Inv.step`).
-/
import EvalexprVerif.Proofs.MalformedDefect

namespace Evalexpr.Spec
open Evalexpr

/-- the previous token starts an item: start of input, `(`, `,`, `;` -/
def itemStart : Option Token → Bool
  | none => true
  | some .lBrace | some .comma | some .semicolon => true
  | _ => false

/-- the previous token is a prefix or binary operator -/
def opTok : Option Token → Bool
  | none => false
  | some p => isBinaryTok p || p.isNot

def optLeft : Option Token → Bool
  | none => false
  | some c => c.isLeftsidedValue

def optAssign : Option Token → Bool
  | none => false
  | some c => c.isAssignment

/-- after `prev`, with `cur` the token that follows, an operand is complete -/
def complete (prev cur : Option Token) : Bool :=
  prevRS prev && !(prevId prev && optLeft cur)

/-- 1 if an operand is awaited -/
def aw (prev cur : Option Token) : Nat := if complete prev cur then 0 else 1

/-- the violation that becomes visible when `t` is read after `prev` -/
def viol (prev : Option Token) (t : Token) : Bool :=
  lacksLeftAt prev t || (opTok prev && !startsOperand t)

theorem prevClasses_disjoint (prev : Option Token) :
    (prevRS prev = true → opTok prev = false) ∧ (prevRS prev = true → itemStart prev = false) ∧
    (opTok prev = true → itemStart prev = false) := by
  -- per token, each implication: the conclusion computes (`rfl`) or the premise is `false = true`
  cases prev with
  | none => refine ⟨?_, ?_, ?_⟩ <;> intro h <;> first | rfl | cases h
  | some p => cases p <;> refine ⟨?_, ?_, ?_⟩ <;> intro h <;> first | rfl | cases h

theorem lacksLeftAt_eq (prev : Option Token) (t : Token) :
    lacksLeftAt prev t = (isBinaryTok t && !isMinus t && !prevRS prev) := by
  cases prev <;> simp [lacksLeftAt, prevRS]

theorem optLeft_not_assign (n : Option Token) (h : optLeft n = true) : optAssign n = false := by
  cases n with
  | none => cases h
  | some c => cases c <;> first | rfl | cases h  -- an assignment token (`cases h`), or not (`rfl`)

/-- a token other than a parenthesis or separator is an operand, `!`, or a binary operator; with
the number of operands its fresh node misses: an identifier followed by an operand (and not by an
assignment) is a function; `-` is binary after an operand -/
inductive TokClass (t : Token) : Prop
  | operand : t.isLeftsidedValue = true → t.isRightsidedValue = true → t.isNot = false →
      isBinaryTok t = false → isMinus t = false →
      (∀ lr next, slot (tokOp lr t next) 0 =
        if t.isIdentifier && !optAssign next && optLeft next then 1 else 0) → TokClass t
  | not : t.isLeftsidedValue = false → t.isRightsidedValue = false → t.isIdentifier = false →
      t.isNot = true → isBinaryTok t = false → isMinus t = false →
      (∀ lr next, slot (tokOp lr t next) 0 = 1) → TokClass t
  | binary : t.isLeftsidedValue = false → t.isRightsidedValue = false → t.isIdentifier = false →
      t.isNot = false → isBinaryTok t = true →
      (∀ lr next, slot (tokOp lr t next) 0 = if isMinus t && !lr then 1 else 2) → TokClass t

theorem tokClass (t : Token) (h1 : t ≠ .lBrace) (h2 : t ≠ .rBrace)
    (h3 : isSepTok t = false) : TokClass t := by
  cases t
  case lBrace => exact absurd rfl h1
  case rBrace => exact absurd rfl h2
  case comma => cases h3
  case semicolon => cases h3
  case not => exact .not rfl rfl rfl rfl rfl rfl fun _ _ => by rfl
  case identifier id =>
    refine .operand rfl rfl rfl rfl rfl fun lr next => ?_
    cases next with
    | none => rfl
    | some n =>
      simp only [tokOp, tokenToNode, optAssign, optLeft]
      rcases Bool.eq_false_or_eq_true n.isAssignment with ha | ha <;>
        rcases Bool.eq_false_or_eq_true n.isLeftsidedValue with hl | hl <;>
        simp only [ha, hl, if_true, if_false, Bool.false_eq_true] <;> rfl
  case float | int | boolean | string => exact .operand rfl rfl rfl rfl rfl fun _ _ => by rfl
  case minus => exact .binary rfl rfl rfl rfl rfl fun lr _ => by cases lr <;> rfl
  -- the arithmetic, comparison and logical operators and the assignments
  all_goals exact .binary rfl rfl rfl rfl rfl fun _ _ => by rfl

/-- the arithmetic of an operand/operator token: what its node misses, and what was awaited before
it, pays for what is awaited after it and for the violation it makes visible -/
theorem tok_arith (prev : Option Token) (t : Token) (next : Option Token) (b : Nat)
    (hj : juxtaposed (prevRS prev) (prevId prev) t = false)
    (h1 : t ≠ .lBrace) (h2 : t ≠ .rBrace) (h3 : isSepTok t = false) :
    slot (tokOp (prevRS prev) t next) 0 + aw prev (some t) + b
      ≥ 1 + aw (some t) next + (if viol prev t then 1 else b) := by
  unfold juxtaposed at hj
  simp only [aw, complete, viol, lacksLeftAt_eq, startsOperand, optLeft.eq_2, prevRS.eq_2,
    prevId.eq_2]
  cases tokClass t h1 h2 h3 with
  | operand hl hr hn hb hm hs =>
    -- not after an operand, unless that is an identifier: an operand was awaited
    simp only [hl, hn, Bool.false_or, Bool.true_and] at hj
    simp only [hs, hl, hr, hn, hb, hm, hj, Bool.and_true, Bool.true_and, Bool.false_and,
      Bool.true_or, Bool.not_true, Bool.and_false, Bool.or_self, Bool.false_eq_true, if_false]
    cases hnl : optLeft next with
    | false => simp
    | true => cases t.isIdentifier <;> simp [optLeft_not_assign next hnl]
  | not hl hr hi hn hb hm hs =>
    simp only [hn, Bool.true_or, Bool.and_true] at hj
    simp [hs, hl, hr, hi, hn, hb, hm, hj]
  | binary hl hr hi hn hb hs =>
    -- without a left operand (`-` excepted) it misses two and one was awaited
    simp only [hs, hl, hr, hi, hn, hb]
    cases hrs : prevRS prev with
    | true => simp [(prevClasses_disjoint prev).1 hrs]
    | false => cases isMinus t <;> simp <;> omega

def stackPot : List Lvl → Nat
  | [] => 0
  | L :: ls => L.pot + stackPot ls

def topOpen : List Lvl → Nat
  | [] => 0
  | L :: _ => L.open

/-- the invariant: the potential of the stack pays for every open level, for an awaited operand,
and for a violation seen so far (`b`) -/
def Inv (prev cur : Option Token) (lv : List Lvl) (b : Nat) : Prop :=
  stackPot lv + 1 ≥ lv.length + aw prev cur + b ∧ (itemStart prev = false → topOpen lv = 0)

/-- where an item ends (before `,` `;` `)` and at the end of the input): an operator without its
right operand is a violation, and the potential pays for it -/
theorem Inv.item_end {prev cur : Option Token} {L : Lvl} {ls : List Lvl} {b : Nat}
    (h : Inv prev cur (L :: ls) b) (hl : optLeft cur = false) :
    ls.length + (if opTok prev then 1 else b) + L.open ≤ L.pot + stackPot ls := by
  obtain ⟨hpsi, hopen⟩ := h
  obtain ⟨f1, f2, f3⟩ := prevClasses_disjoint prev
  have hlo : L.open ≤ 1 := openSlot_le _
  simp only [stackPot, topOpen, List.length_cons, aw, complete, hl, Bool.and_false, Bool.not_false,
    Bool.and_true] at hpsi hopen
  cases hrs : prevRS prev with
  | true =>
    have := hopen (f2 hrs)
    simp only [f1 hrs, hrs, Bool.false_eq_true, if_false, if_true] at hpsi ⊢; omega
  | false =>
    simp only [hrs, Bool.false_eq_true, if_false] at hpsi
    cases hop : opTok prev with
    | true => have := hopen (f3 hop); simp only [if_true]; omega
    | false => simp only [Bool.false_eq_true, if_false]; omega

theorem Inv.step {prev : Option Token} {t : Token} {next : Option Token} {lv lv' : List Lvl}
    {b : Nat} (h : Inv prev (some t) lv b)
    (hj : juxtaposed (prevRS prev) (prevId prev) t = false)
    (hs : LvStep (prevRS prev) next t lv lv') :
    Inv (some t) next lv' (if viol prev t then 1 else b) := by
  cases hs with
  | opened =>
    obtain ⟨hpsi, -⟩ := h
    refine ⟨?_, fun hi => by simp [itemStart] at hi⟩
    have hv : viol prev .lBrace = false := by
      simp [viol, lacksLeftAt_eq, isBinaryTok, startsOperand, Token.isLeftsidedValue]
    have haw1 : aw (some .lBrace) next = 1 := by
      simp [aw, complete, prevRS, Token.isRightsidedValue]
    -- `(` directly after an operand other than an identifier is a juxtaposition
    have haw : aw prev (some .lBrace) = 1 := by
      simp [juxtaposed, Token.isNot, Token.isLeftsidedValue] at hj
      simp [aw, complete, optLeft, Token.isLeftsidedValue]
      intro h1; simp [hj h1]
    rw [haw] at hpsi
    rw [haw1, hv]
    simp only [stackPot, rootLvl_pot, List.length_cons, Bool.false_eq_true, if_false]
    omega
  | plain L ls h1 h2 h3 hins =>
    obtain ⟨hpsi, -⟩ := h
    obtain ⟨k3, k4⟩ := ins_pot hins
    refine ⟨?_, fun _ => k3⟩
    have ha := tok_arith prev t next b hj h1 h2 h3
    rw [defect_new] at k4
    simp only [stackPot, List.length_cons] at hpsi ⊢
    omega
  | sep semi L ls =>
    have hend := h.item_end (by cases semi <;> rfl)
    have k4 := L.sep_defect semi
    have haw1 : aw (some (sepTok semi)) next = 1 := by cases semi <;> rfl
    have hv : viol prev (sepTok semi) = opTok prev := by
      cases semi <;>
        simp [sepTok, viol, lacksLeftAt_eq, isBinaryTok, startsOperand, Token.isLeftsidedValue,
          Token.isNot, isMinus]
    refine ⟨?_, fun hi => by cases semi <;> simp [sepTok, itemStart] at hi⟩
    rw [haw1, hv]
    simp only [stackPot, List.length_cons, Lvl.pot, Lvl.open,
      show (L.sep semi).item = Node.rootNode by cases semi <;> rfl, rootNode_open] at hend ⊢
    omega
  | closed L L2 ls hins =>
    have hend := h.item_end (L := L) (ls := L2 :: ls) rfl
    obtain ⟨k3, k4⟩ := ins_pot hins
    have hv : viol prev .rBrace = opTok prev := by
      simp [viol, lacksLeftAt_eq, isBinaryTok, startsOperand, Token.isLeftsidedValue, Token.isNot,
        isMinus]
    refine ⟨?_, fun _ => k3⟩
    rw [show aw (some .rBrace) next = 0 from rfl, hv]
    simp only [stackPot, List.length_cons, Lvl.pot] at hend k4 ⊢
    omega

/-- the recogniser (ii) with the right-hand check shifted to the following token -/
def lacks2 : Option Token → List Token → Bool
  | prev, [] => opTok prev
  | prev, t :: rest => viol prev t || lacks2 (some t) rest

theorem lacks2_of_right (t : Token) (rest : List Token) (h : lacksRightAt t rest.head? = true) :
    lacks2 (some t) rest = true := by
  cases rest with
  | nil =>
    simp only [lacksRightAt, List.head?, Bool.and_true] at h
    simpa [lacks2, opTok] using h
  | cons n r =>
    simp only [lacksRightAt, List.head?, Bool.and_eq_true] at h
    simp only [lacks2, viol, opTok, Bool.or_eq_true, Bool.and_eq_true]
    exact .inl (.inr ⟨by simpa using h.1, h.2⟩)

theorem lacks2_of_lacks (ts : List Token) : ∀ prev, lacksOperandIn prev ts = true →
    lacks2 prev ts = true := by
  induction ts with
  | nil => intro prev h; simp [lacksOperandIn] at h
  | cons t rest ih =>
    intro prev h
    simp only [lacksOperandIn, Bool.or_eq_true] at h
    simp only [lacks2, Bool.or_eq_true]
    rcases h with (h | h) | h
    · exact .inl (by simp [viol, h])
    · exact .inr (lacks2_of_right t rest h)
    · exact .inr (ih _ h)

/-- along the loop: a violation has been paid for (`b = 1`), or is still to come -/
def OpI (prev : Option Token) (ts : List Token) (lv : List Lvl) : Prop :=
  ∃ b, b ≤ 1 ∧ Inv prev ts.head? lv b ∧ (b = 1 ∨ lacks2 prev ts = true)

theorem OpI.step : Preserved OpI := by
  intro prev t rest lv lv' ⟨b, hb, hinv, hv⟩ hj hs
  refine ⟨_, ?_, Inv.step hinv hj hs, ?_⟩
  · split <;> omega
  · simp only [lacks2, Bool.or_eq_true] at hv
    rcases hv with hv | hv | hv
    · left; split <;> omega
    · left; simp [hv]
    · right; exact hv

/-- (ii) a prefix or binary operator (other than `,` `;`) that lacks an operand: if a tree is
built at all, it contains an operator with the wrong number of operands -/
theorem C13_operand (ts : List Token) (h : lacksOperandIn none ts = true) (t : Node)
    (ht : tokensToOperatorTree ts = .ok t) : deficient t = true := by
  have h0 : OpI none ts [.fresh] :=
    ⟨0, by omega, ⟨by simp [stackPot, rootLvl_pot, aw, complete, prevRS], fun h => by simp [itemStart] at h⟩,
      .inr (lacks2_of_lacks ts none h)⟩
  have hb := build_lvl OpI.step ts h0
  rw [ht] at hb
  obtain ⟨prev, L, ⟨b, _, hinv, hv⟩, rfl⟩ := hb
  have hend := hinv.item_end rfl
  simp only [stackPot, Lvl.pot] at hend
  simp only [lacks2] at hv
  refine defect_pos_deficient _ ?_
  rcases hv with rfl | hv
  · split at hend <;> omega
  · simp only [hv, if_true] at hend; omega

end Evalexpr.Spec

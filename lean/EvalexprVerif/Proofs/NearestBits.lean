/-
Proofs/NearestBits.lean — binary64 patterns for the `roundRat` proofs: the fields as div/mod, the
value grid, injectivity of `scaledValue` on finite non-negative doubles, the pattern `roundRat`
packs from a significand and an exponent, and the large constants of Spec/Nearest.lean under opaque
names. This file imports no Mathlib module, so the literal powers 2^1074 and 2^2044 elaborate exactly
as in the specification; the Mathlib-importing Proofs/Nearest.lean only ever sees `P1074` and `Y2044`
and never tries to evaluate them.
-/
import EvalexprVerif.Proofs.NearestArith

namespace Evalexpr.Spec.Nearest

theorem expField_eq (y : UInt64) : expField y = y.toNat / 2 ^ 52 % 2048 := by
  unfold expField
  rw [UInt64.toNat_and, UInt64.toNat_shiftRight, Nat.shiftRight_eq_div_pow]
  have h1 : (52 : UInt64).toNat % 64 = 52 := by decide
  have h2 : (0x7ff : UInt64).toNat = 2 ^ 11 - 1 := by decide
  rw [h1, h2, Nat.and_two_pow_sub_one_eq_mod]

theorem fracField_eq (y : UInt64) : fracField y = y.toNat % 2 ^ 52 := by
  unfold fracField
  rw [UInt64.toNat_and]
  have h2 : (0xfffffffffffff : UInt64).toNat = 2 ^ 52 - 1 := by decide
  rw [h2, Nat.and_two_pow_sub_one_eq_mod]

theorem fracField_lt (y : UInt64) : fracField y < 2 ^ 52 := by
  rw [fracField_eq]; exact Nat.mod_lt _ (by decide)

theorem isFinitePos_iff (y : UInt64) : isFinitePos y = true ↔ y.toNat < 0x7ff0000000000000 := by
  unfold isFinitePos
  rw [decide_eq_true_iff, UInt64.lt_iff_toNat_lt]
  have : (0x7ff0000000000000 : UInt64).toNat = 0x7ff0000000000000 := by decide
  rw [this]

theorem scaledValue_zero_exp (y : UInt64) (h : expField y = 0) : scaledValue y = fracField y := by
  unfold scaledValue; simp [h]

theorem scaledValue_pos_exp (y : UInt64) (h : expField y ≠ 0) :
    scaledValue y = (2 ^ 52 + fracField y) * 2 ^ (expField y - 1) := by
  unfold scaledValue; simp [h]

/-- a significand below `2M` at a lower exponent stays below the bottom `M·2^E` of the binade -/
theorem mul_pow_lt {m M k E : Nat} (hm : m < 2 * M) (hk : k < E) : m * 2 ^ k < M * 2 ^ E :=
  calc m * 2 ^ k < 2 * M * 2 ^ k := Nat.mul_lt_mul_of_pos_right hm (Nat.pow_pos (by decide))
    _ = M * 2 ^ (k + 1) := by rw [Nat.pow_succ, Nat.mul_comm 2 M, Nat.mul_assoc, Nat.mul_comm 2]
    _ ≤ M * 2 ^ E := Nat.mul_le_mul_left _ (Nat.pow_le_pow_right (by decide) hk)

/-- every double's scaled value is on the grid of spacing `2^E` or below `2^52·2^E` -/
theorem scaledValue_grid (y : UInt64) (E : Nat) :
    2 ^ E ∣ scaledValue y ∨ scaledValue y < 2 ^ 52 * 2 ^ E := by
  have hf := fracField_lt y
  by_cases h : expField y = 0
  · right
    rw [scaledValue_zero_exp y h]
    exact Nat.lt_of_lt_of_le hf (Nat.le_mul_of_pos_right _ (Nat.pow_pos (by decide)))
  · rw [scaledValue_pos_exp y h]
    rcases Nat.lt_or_ge (expField y - 1) E with hlt | hge
    · exact Or.inr (mul_pow_lt (by omega) hlt)
    · exact Or.inl (Nat.dvd_mul_left_of_dvd (Nat.pow_dvd_pow 2 hge) _)

theorem toNat_eq_fields (y : UInt64) (hy : isFinitePos y = true) :
    y.toNat = expField y * 2 ^ 52 + fracField y := by
  rw [isFinitePos_iff] at hy
  rw [expField_eq, fracField_eq]
  omega

theorem scaledValue_lt_of_exp_lt (y1 y2 : UInt64) (h : expField y1 < expField y2) :
    scaledValue y1 < scaledValue y2 := by
  have hf1 := fracField_lt y1
  rw [scaledValue_pos_exp y2 (by omega)]
  refine Nat.lt_of_lt_of_le (m := 2 ^ 52 * 2 ^ (expField y2 - 1)) ?_
    (Nat.mul_le_mul_right _ (Nat.le_add_right ..))
  by_cases e1 : expField y1 = 0
  · rw [scaledValue_zero_exp y1 e1]
    exact Nat.lt_of_lt_of_le hf1 (Nat.le_mul_of_pos_right _ (Nat.pow_pos (by decide)))
  · rw [scaledValue_pos_exp y1 e1]
    exact mul_pow_lt (by omega) (by omega)

theorem scaledValue_inj (y1 y2 : UInt64) (h1 : isFinitePos y1 = true) (h2 : isFinitePos y2 = true)
    (h : scaledValue y1 = scaledValue y2) : y1 = y2 := by
  apply UInt64.toNat_inj.1
  rw [toNat_eq_fields y1 h1, toNat_eq_fields y2 h2]
  rcases Nat.lt_trichotomy (expField y1) (expField y2) with he | he | he
  · exact absurd h (Nat.ne_of_lt (scaledValue_lt_of_exp_lt y1 y2 he))
  · -- same exponent field (both subnormal, or both normal): same fraction field
    by_cases e2 : expField y2 = 0
    · rw [scaledValue_zero_exp y1 (he.trans e2), scaledValue_zero_exp y2 e2] at h
      rw [he, h]
    · rw [scaledValue_pos_exp y1 (he ▸ e2), scaledValue_pos_exp y2 e2, he] at h
      have := Nat.eq_of_mul_eq_mul_right (Nat.pow_pos (by decide)) h
      rw [he]; omega
  · exact absurd h.symm (Nat.ne_of_lt (scaledValue_lt_of_exp_lt y2 y1 he))

/-- the pattern with exponent field `eb` and fraction field `f` -/
theorem fields_mk (eb f : Nat) (he : eb ≤ 2046) (hf : f < 2 ^ 52) :
    isFinitePos (eb * 2 ^ 52 + f).toUInt64 = true ∧ expField (eb * 2 ^ 52 + f).toUInt64 = eb ∧
      fracField (eb * 2 ^ 52 + f).toUInt64 = f := by
  have ht : (eb * 2 ^ 52 + f).toUInt64.toNat = eb * 2 ^ 52 + f :=
    UInt64.toNat_ofNat_of_lt' (show _ < 2 ^ 64 by omega)
  rw [isFinitePos_iff, expField_eq, fracField_eq, ht]
  omega

/-- the last step of `F64.roundRat`: the bit pattern of significand `q < 2^53` at exponent `e2` -/
def pack (q : Nat) (e2 : Int) : UInt64 :=
  if q < 2 ^ 52 then q.toUInt64
  else if e2 + 1075 ≥ 2047 then 0x7ff0000000000000
  else ((e2 + 1075).toNat * 2 ^ 52 + (q - 2 ^ 52)).toUInt64

/-- what `pack` makes of a significand `q < 2^53` at exponent `E − 1074`: +infinity from `E = 2046`
on, otherwise the double of value `q · 2^E` whose last bit is the parity of `q` -/
theorem pack_cases (q : Nat) (e : Int) (E : Nat) (he : e = (E : Int) - 1074) (hq : q < 2 ^ 53)
    (hge : 2 ^ 52 ≤ q ∨ E = 0) :
    ((2 ^ 52 ≤ q ∧ 2046 ≤ E) ∧ pack q e = 0x7ff0000000000000) ∨
    (¬ (2 ^ 52 ≤ q ∧ 2046 ≤ E) ∧ isFinitePos (pack q e) = true ∧
      scaledValue (pack q e) = q * 2 ^ E ∧ fracField (pack q e) % 2 = q % 2) := by
  unfold pack
  by_cases h52 : q < 2 ^ 52
  · -- subnormal: exponent field 0, fraction `q`
    obtain ⟨f1, f2, f3⟩ := fields_mk 0 q (Nat.zero_le _) h52
    rw [Nat.zero_mul, Nat.zero_add] at f1 f2 f3
    rw [if_pos h52, scaledValue_zero_exp _ f2, f3, hge.resolve_left (Nat.not_le.2 h52)]
    exact Or.inr ⟨fun h => Nat.not_le.2 h52 h.1, f1, (Nat.mul_one q).symm, rfl⟩
  · rw [if_neg h52]
    by_cases hE : 2046 ≤ E
    · -- biased exponent 2047 or more: +infinity
      rw [if_pos (by omega)]
      exact Or.inl ⟨⟨Nat.not_lt.1 h52, hE⟩, rfl⟩
    · -- normal: exponent field `E + 1`, fraction `q − 2^52`
      obtain ⟨f1, f2, f3⟩ := fields_mk (E + 1) (q - 2 ^ 52) (by omega) (by omega)
      rw [if_neg (by omega), show (e + 1075).toNat = E + 1 by omega,
        scaledValue_pos_exp _ (by rw [f2]; exact Nat.succ_ne_zero E), f2, f3,
        Nat.add_sub_cancel' (Nat.not_lt.1 h52)]
      exact Or.inr ⟨fun h => hE h.2, f1, rfl, by omega⟩

-- the literal powers below (up to 2^2044) may be evaluated by the elaborator
set_option exponentiation.threshold 2100

/-- 2^1074: the scale that makes every finite double a natural number -/
@[irreducible] def P1074 : Nat := 2 ^ 1074
/-- 2^2044 = 2^970 · 2^1074 -/
@[irreducible] def Y2044 : Nat := 2 ^ 2044

theorem P1074_split (i j : Nat) (h : i + j = 1074) : P1074 = 2 ^ i * 2 ^ j := by
  unfold P1074
  rw [← Nat.pow_add, h]

theorem scaledError_eq (n d : Nat) (y : UInt64) :
    scaledError n d y = adiff (n * P1074) (scaledValue y * d) := by
  unfold scaledError adiff P1074
  rw [Int.natCast_mul, Int.natCast_mul, Int.natCast_pow]
  rfl

theorem Y2044_facts (E : Nat) :
    0 < Y2044 ∧ (E ≤ 2044 → 2 ^ E ≤ Y2044) ∧ (E = 2045 → 2 ^ E = Y2044 * 2) ∧
      (2046 ≤ E → Y2044 * 4 ≤ 2 ^ E) := by
  unfold Y2044
  refine ⟨Nat.pow_pos (by decide), Nat.pow_le_pow_right (by decide), fun h => ?_, fun h => ?_⟩
  · subst h; exact Nat.pow_succ ..
  · exact Nat.pow_le_pow_right (by decide : 0 < 2) (show 2044 + 2 ≤ E from h)

theorem overflow_const (A B : Nat) :
    (2 ^ (54 + A) - 2 ^ A) * 2 ^ B = (2 ^ 54 - 1) * 2 ^ (A + B) := by
  rw [Nat.pow_add, Nat.pow_add 2 A B, ← Nat.mul_assoc]
  congr 1
  rw [Nat.sub_mul, Nat.one_mul]

theorem overflows_iff_const (n d : Nat) :
    overflows n d = true ↔ (2 ^ 54 - 1) * Y2044 * d ≤ n * P1074 := by
  have e1 : (2 ^ 1024 - 2 ^ 970) * 2 ^ 1074 = (2 ^ 54 - 1) * 2 ^ 2044 := overflow_const 970 1074
  unfold overflows Y2044 P1074
  rw [decide_eq_true_iff, ge_iff_le, e1]

end Evalexpr.Spec.Nearest

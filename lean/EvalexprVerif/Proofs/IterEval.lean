/-
Proofs/IterEval.lean — property C14 at operator level: the functions of the context never change, a
`HashMapContext` stays one, and which unknown identifier an operator can report: its own (`op_unk`),
or the target of an assignment (`assign_unk`).
-/
import EvalexprVerif.Proofs.ErrorSweep
import EvalexprVerif.Proofs.BuiltinMeets
import EvalexprVerif.Proofs.EvalInduction

namespace Evalexpr.Spec
open Evalexpr

def isAssignOp : Operator → Bool
  | .assign | .addAssign | .subAssign | .mulAssign | .divAssign | .modAssign | .expAssign
  | .andAssign | .orAssign => true
  | _ => false

theorem assignOp_isAssign (op : AssignOp) : isAssignOp op.toOperator = true := by cases op <;> rfl

theorem ident_of_isAssignOp {op : Operator} (h : Operator.isAssignKind op = true) : op.ident = none := by
  cases op with
  | varWrite _ | varRead _ | fn _ => cases h
  | _ => rfl

def PresFn {α : Type} (s : St) (out : Res α × St) : Prop :=
  out.2.ctx.userFn = s.ctx.userFn ∧ out.2.ctx.builtinsDisabled = s.ctx.builtinsDisabled

theorem evalMut_sameFns :
    (∀ n s, SameFns s (Node.evalMut n s).2) ∧ ∀ cs s, SameFns s (evalMutList cs s).2 := by
  simp only [evalMut_eq_evalG, evalMutList_eq_evalGList]
  exact evalG_rel _ SameFns SameFns.refl (fun _ _ _ => SameFns.trans) evalMut_op_sameFns

theorem list_evalMut_presFn : ∀ (cs : List Node) (s : St), PresFn s (evalMutList cs s) :=
  fun cs s => ⟨funext (evalMut_sameFns.2 cs s).1, (evalMut_sameFns.2 cs s).2⟩

/-- a `HashMapContext` stays one -/
theorem evalMut_hashMap (n : Node) {s : St} (hs : ∃ h, s.ctx = .hashMap h) :
    ∃ h₁, (n.evalMut s).2.ctx = .hashMap h₁ := by
  rw [evalMut_eq_evalG]
  refine (evalG_rel _ (fun s s' => (∃ h, s.ctx = .hashMap h) → ∃ h₁, s'.ctx = .hashMap h₁)
    (fun _ => id) (fun _ _ _ h₁ h₂ => h₂ ∘ h₁) fun op args s hs => ?_).1 n s hs
  cases hk : Operator.isAssignKind op with
  | false => rwa [evalMut_of_not_assign op args s hk, eval_ctx]
  | true =>
    rcases evalMut_assign_shape op args s hk with ⟨e, hp⟩ | ⟨x, w, c, hc, hp⟩ <;> rw [hp]
    · exact hs
    · exact setValue_hashMap hc

theorem NoFabricate.of_userFn {c c' : Ctx} (h : c'.userFn = c.userFn) (hnf : NoFabricate c) :
    NoFabricate c' := by
  intro id f arg x hf
  rw [h] at hf
  exact hnf id f arg x hf

theorem NoFabricate.evalMut {s : St} (hnf : NoFabricate s.ctx) (n : Node) :
    NoFabricate (n.evalMut s).2.ctx :=
  NoFabricate.of_userFn (funext (evalMut_sameFns.1 n s).1) hnf

theorem NoFabricate.clean {c : Ctx} (hnf : NoFabricate c) {id : Str} {f : UserFn}
    (hf : c.userFn id = some f) (arg : Value) : Clean (f arg) := by
  have h := hnf id f arg
  cases hfa : f arg with
  | ok v => trivial
  | error e =>
    cases e with
    | variableIdentifierNotFound x => exact absurd hfa (h x hf).1
    | functionIdentifierNotFound x => exact absurd hfa (h x hf).2
    | _ => rfl

/-- an unknown-identifier error, if any, names an occurrence in `O` -/
def Unk {α : Type} (O : List (IdentClass × Str)) (out : Res α × St) : Prop :=
  (∀ x, out.1 = .error (.variableIdentifierNotFound x) → (.read, x) ∈ O ∨ (.write, x) ∈ O) ∧
    (∀ f, out.1 = .error (.functionIdentifierNotFound f) → (.function, f) ∈ O)

theorem Unk.of_clean {α : Type} {O : List (IdentClass × Str)} {out : Res α × St}
    (h : Clean out.1) : Unk O out :=
  ⟨fun x hx => absurd hx (h.not_var x), fun f hf => absurd hf (h.not_fn f)⟩

theorem Unk.mono {α : Type} {O O' : List (IdentClass × Str)} {out : Res α × St} (h : Unk O out)
    (hsub : O ⊆ O') : Unk O' out :=
  ⟨fun x hx => (h.1 x hx).imp (hsub ·) (hsub ·), fun f hf => hsub (h.2 f hf)⟩

theorem Unk.bindE {α β : Type} {O : List (IdentClass × Str)} {a : Res α × St}
    {k : α → St → Res β × St} (ha : Unk O a) (hk : ∀ v, Unk O (k v a.2)) :
    Unk O (bindE a k) := by
  rcases a with ⟨e | v, s'⟩
  · exact ⟨fun x hx => ha.1 x (by cases hx; rfl), fun f hf => ha.2 f (by cases hf; rfl)⟩
  · exact hk v

theorem unk_fn_error {α : Type} (id : Str) (s : St) :
    Unk (α := α) [(.function, id)] (.error (.functionIdentifierNotFound id), s) := by
  refine ⟨fun _ hx => ?_, fun _ hg => ?_⟩
  · cases hx
  · cases hg; exact List.mem_singleton.2 rfl

theorem unk_var_error {α : Type} (c : IdentClass) (hc : c ≠ .function) (x : Str) (s : St) :
    Unk (α := α) [(c, x)] (.error (.variableIdentifierNotFound x), s) := by
  refine ⟨fun _ hx => ?_, fun _ hg => ?_⟩
  · cases hx
    cases c
    · exact .inr (List.mem_singleton.2 rfl)
    · exact .inl (List.mem_singleton.2 rfl)
    · exact absurd rfl hc
  · cases hg

theorem afterCall_of_clean {c : Ctx} {id : Str} {arg : Value} {r : Res Value} (h : Clean r) :
    afterCall c id arg r = r := by
  unfold afterCall
  split
  · cases h
  · rfl

theorem callFunction_unk {s : St} (hnf : NoFabricate s.ctx) (id : Str) (arg : Value) :
    Unk [(.function, id)] (callFunction id arg s) := by
  rw [callFunction_eq]
  cases hu : s.ctx.userFn id with
  | some f =>
    have hc := hnf.clean hu arg
    exact .of_clean (by dsimp only; rwa [afterCall_of_clean hc])
  | none =>
    simp only [afterCall]
    repeat' split
    · exact .of_clean (clean_builtin_call _ _)   -- the builtin of that name answers
    · exact unk_fn_error id s                    -- there is no such builtin
    · exact unk_fn_error id s                    -- builtins are disabled

theorem varRead_unk (x : Str) (args : List Value) (s : St) :
    Unk [(.read, x)] (Operator.eval (.varRead x) args s) := by
  simp only [Operator.eval]
  repeat' split
  · exact .of_clean trivial              -- `x` is bound
  · exact unk_var_error .read nofun x s  -- `x` is not bound
  · exact .of_clean rfl                  -- arguments given to a variable: wrong arity

theorem op_unk {s : St} (hnf : NoFabricate s.ctx) {op : Operator} (ha : Operator.isAssignKind op = false)
    (args : List Value) : Unk op.ident.toList (op.evalMut args s) := by
  rw [evalMut_of_not_assign op args s ha]
  cases hp : Operator.isPure op with
  | true => rw [eval_pure hp]; exact .of_clean (plain_evalPure hp args).clean
  | false =>
    cases op with
    | varRead x => exact varRead_unk x args s
    | fn f =>
      rcases args with _ | ⟨a, _ | ⟨b, rest⟩⟩
      · exact .of_clean rfl              -- no argument: wrong arity
      · exact callFunction_unk hnf f a
      · exact .of_clean rfl              -- more than one argument: wrong arity
    | _ => cases hp

theorem assign_unk {op : Operator} (ha : Operator.isAssignKind op = true) (x : Str) (v : Value) (s : St) :
    Unk [(.write, x)] (op.evalMut [.string x, v] s) := by
  rw [evalMut_of_assign op _ s ha]
  have store : ∀ w : Value, Unk [(.write, x)]
      (match s.ctx.setValue x w with
        | .error e => ((.error e : Res Value), s)
        | .ok c => (.ok .empty, { s with ctx := c })) := by
    intro w
    split
    · exact .of_clean ((plain_ctx_setValue _ _ _).clean.of_eq ‹_›)   -- `set_value` refuses
    · exact .of_clean trivial
  simp only [assignArgs, Value.asString]
  cases hb : op.assignBase with
  | none => exact store v   -- `x = v`
  | some base =>            -- `x ∘= v`: reads `x`, applies `base`, stores
    dsimp only
    cases s.ctx.getValue x with
    | none => exact unk_var_error .write nofun x s
    | some left =>
      dsimp only
      cases he : base.evalPure [left, v] with
      | error e => exact .of_clean ((plain_evalPure (assignBase_isPure hb) _).clean.of_eq he)
      | ok w => exact store w

end Evalexpr.Spec

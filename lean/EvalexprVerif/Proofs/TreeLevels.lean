/-
Proofs/TreeLevels.lean — the root stack of `tokensToOperatorTree` as a list of levels, one per open
parenthesis plus the top level. A level (`Lvl`) is the current item and the open sequence nodes
above it: the elements of the open tuple and the members of the open chain, if there is one
(`Ctx`); written as frames (`Ctx.frames`) and folded over the item they give the parenthesis node
of the level (`close`). The stack operations of the token loop are equations on a level
(`push_plain`, `push_comma`, `push_semi`, `collapse_explicit`), a step of the loop is one of four
moves on the list of levels
(`LvStep`, `treeStep_lvl`), and an invariant of these moves is an invariant of the whole builder
(`build_lvl`).
-/
import EvalexprVerif.Proofs.ParseSpine

namespace Evalexpr.Spec
open Evalexpr

section kinds
variable {o : Operator}
theorem isRoot_of_kind {k : OpKind} (h : o.kind = k) : o.isRoot = (k == .rootNode) := by
  rw [Operator.isRoot, h]
theorem isSeq_of_kind {k : OpKind} (h : o.kind = k) : o.isSequence = k.isSequence := by
  rw [Operator.isSequence, h]
theorem seq_kind (h : o.isSequence = true) : o.kind = .tuple ∨ o.kind = .chain := by
  unfold Operator.isSequence at h
  generalize o.kind = k at h
  cases k <;> simp [OpKind.isSequence] at h ⊢
theorem not_isRoot_of_isSeq (h : o.isSequence = true) : o.isRoot = false := by
  rcases seq_kind h with hk | hk <;> exact isRoot_of_kind hk
theorem prec_of_kind {k : OpKind} (h : o.kind = k) : o.precedence = k.precedence := by
  simp [Operator.precedence, h]
end kinds

def isSepTok : Token → Bool
  | .comma | .semicolon => true
  | _ => false

theorem sepTok_cases {t : Token} (h : isSepTok t = true) : t = .comma ∨ t = .semicolon := by
  cases t <;> simp [isSepTok] at h ⊢

/-- the two flags of the token loop, as functions of the previous token -/
def prevRS : Option Token → Bool
  | none => false
  | some p => p.isRightsidedValue

def prevId : Option Token → Bool
  | none => false
  | some p => p.isIdentifier

def pushAny (stack : List Node) (node : Node) : Res (List Node) :=
  match stack with
  | [] => .error .unmatchedRBrace
  | root :: stack =>
    if node.op.isSequence then pushSequence stack root node else pushNode stack root node

theorem treeStep_eq (stack : List Node) (lr li : Bool) (tok : Token) (next : Option Token) :
    treeStep stack lr li tok next =
      if juxtaposed lr li tok then
        .error (if tok.isLBrace then .missingOperatorOutsideOfBrace else .appendedToLeafNode)
      else
        match tokenToNode stack lr tok next with
        | .error e => .error e
        | .ok (none, stack) => .ok stack
        | .ok (some node, stack) => pushAny stack node := by
  unfold treeStep pushAny
  rfl

/-- the operator of the fresh node a token other than a parenthesis is turned into -/
def tokOp (lr : Bool) (t : Token) (next : Option Token) : Operator :=
  match tokenToNode [] lr t next with
  | .ok (some n, _) => n.op
  | _ => .rootNode

theorem tokenToNode_eq (st : List Node) (lr : Bool) (t : Token) (next : Option Token)
    (h1 : t ≠ .lBrace) (h2 : t ≠ .rBrace) :
    tokenToNode st lr t next = .ok (some (.new (tokOp lr t next)), st) ∧
      (tokOp lr t next).isSequence = isSepTok t := by
  cases t
  case lBrace => exact absurd rfl h1
  case rBrace => exact absurd rfl h2
  case identifier id =>
    cases next with
    | none => exact ⟨rfl, rfl⟩
    | some n =>
      simp only [tokOp, tokenToNode]
      cases n.isAssignment <;> cases n.isLeftsidedValue <;> exact ⟨rfl, rfl⟩
  case minus => cases lr <;> exact ⟨rfl, rfl⟩
  all_goals exact ⟨rfl, rfl⟩  -- a token with one fixed operator

/-- the node a frame stands for while its last child is still on the stack above it, and with
that child put in -/
def Frame.node (g : Frame) : Node := ⟨g.op, g.left⟩
def Frame.fill (g : Frame) (x : Node) : Node := ⟨g.op, g.left ++ [x]⟩

/-- the frames, innermost first, folded over `x` (what `collapse_all_sequences` does with the
sequence nodes of a level) -/
def close : List Frame → Node → Node
  | [], x => x
  | g :: gs, x => close gs (g.fill x)

/-- the open sequence nodes of a parenthesis level: the elements of the open tuple before the
current one (`none`: no `,` since the last `;`), the members of the open chain before the current
one (`none`: no `;` yet) -/
structure Ctx where
  tup : Option (List Node)
  chn : Option (List Node)

/-- the open nodes as frames, innermost first, down to the parenthesis node. None before the first
separator: the item is the parenthesis node itself, and the first separator puts a fresh one
below it -/
def Ctx.frames : Ctx → List Frame
  | ⟨none, none⟩ => []
  | ⟨some t, none⟩ => [⟨.tuple, t⟩, R]
  | ⟨none, some c⟩ => [⟨.chain, c⟩, R]
  | ⟨some t, some c⟩ => [⟨.tuple, t⟩, ⟨.chain, c⟩, R]

theorem Ctx.frames_seq {c : Ctx} {g : Frame} {gs : List Frame} (h : c.frames = g :: gs) :
    g.op.isSequence = true := by
  obtain ⟨_ | _, _ | _⟩ := c <;> cases h <;> rfl

/-- one parenthesis level of the root stack: the open sequence nodes, and the children of the
current item (the parenthesis node a token is inserted into) -/
structure Lvl where
  ctx : Ctx
  kids : List Node

def Lvl.item (L : Lvl) : Node := ⟨.rootNode, L.kids⟩

/-- the part of the stack the level stands for (head = top): the item is the last child of the
innermost open node -/
def Lvl.toList (L : Lvl) : List Node :=
  match L.ctx.frames with
  | [] => [L.item]
  | g :: gs => g.fill L.item :: gs.map Frame.node

theorem Lvl.toList_ne (L : Lvl) : L.toList ≠ [] := by
  unfold Lvl.toList; split <;> simp

/-- the parenthesis node a level is folded into -/
def Lvl.collapse (L : Lvl) : Node := close L.ctx.frames L.item

theorem Lvl.collapse_kind (L : Lvl) : L.collapse.op.kind = .rootNode := by
  obtain ⟨⟨_ | _, _ | _⟩, _⟩ := L <;> rfl

/-- a node other than a separator is inserted into the item. The top of the stack is a sequence
node exactly if a separator has been read, and then its last child is the item: the first
`unreachable!()` of the token loop is not reached -/
theorem push_plain (L : Lvl) (s : List Node) {node : Node} (hn : node.op.isSequence = false) :
    pushAny (L.toList ++ s) node =
      (L.item.insertBackPrioritized node true).map fun x =>
        (Lvl.mk L.ctx x.children).toList ++ s := by
  -- an insertion keeps the operator: the new item is a parenthesis node as well
  have hx : ∀ {x}, L.item.insertBackPrioritized node true = .ok x →
      Lvl.item ⟨L.ctx, x.children⟩ = x :=
    fun {x} h => by cases x; exact congrArg (Node.mk · _) (insertBack_ins h).op_eq.symm
  simp only [Lvl.toList]
  cases hF : L.ctx.frames with
  | nil =>
    simp only [pushAny, List.cons_append, List.nil_append, hn, pushNode, Bool.false_eq_true,
      if_false, show L.item.op.isSequence = false from rfl]
    cases h : L.item.insertBackPrioritized node true with
    | error e => rfl
    | ok x => simp only [Except.map, hx h]
  | cons g gs =>
    simp only [pushAny, List.cons_append, hn, pushNode, Ctx.frames_seq hF, Bool.false_eq_true,
      if_false, if_true, Frame.fill, List.getLast?_concat, List.dropLast_concat]
    cases h : L.item.insertBackPrioritized node true with
    | error e => rfl
    | ok x => simp only [Except.map, hx h]

section pushSequence
variable {root node : Node} (s : List Node)

/-- a separator on a parenthesis node: a new sequence over it and an empty item, above a fresh
parenthesis node -/
theorem pushSequence_root (hr : root.op.kind = .rootNode) (hn : node.op.isRoot = false) :
    pushSequence s root node =
      .ok (⟨node.op, node.children ++ [root, Node.rootNode]⟩ :: Node.rootNode :: s) := by
  have : (OpKind.rootNode == node.op.kind) = false :=
    Bool.eq_false_iff.2 fun h => by rw [Operator.isRoot, ← eq_of_beq h] at hn; cases hn
  simp [pushSequence, hr, this, Operator.isRoot]

/-- a separator on the open sequence of its own kind: an empty item more -/
theorem pushSequence_same (h : root.op.kind = node.op.kind) :
    pushSequence s root node = .ok (⟨root.op, root.children ++ [Node.rootNode]⟩ :: s) := by
  simp [pushSequence, h]

/-- `,` on an open chain: the current item of the chain starts a tuple above the chain -/
theorem pushSequence_comma_chain {last : Node} (hr : root.op.kind = .chain)
    (hn : node.op.kind = .tuple) (hl : root.children.getLast? = some last) :
    pushSequence s root node =
      .ok (⟨node.op, node.children ++ [last, Node.rootNode]⟩ ::
        ⟨root.op, root.children.dropLast⟩ :: s) := by
  simp [pushSequence, hr, hn, hl, Operator.isRoot, prec_of_kind hr, prec_of_kind hn,
    OpKind.precedence]

/-- `;` on a tuple above the parenthesis node: the tuple becomes the first member of a chain -/
theorem pushSequence_semi_tuple_root {P : Node} (hr : root.op.kind = .tuple)
    (hn : node.op.kind = .chain) (hP : P.op.kind = .rootNode) :
    pushSequence (P :: s) root node =
      .ok (⟨node.op, node.children ++ [root, Node.rootNode]⟩ :: P :: s) := by
  have hPs : P.op.isSequence = false := isSeq_of_kind hP
  simp [pushSequence, hr, hn, hP, Operator.isRoot, prec_of_kind hr, prec_of_kind hn,
    OpKind.precedence, collapseRootStackTo, hPs]

/-- `;` on a tuple above an open chain: the tuple becomes the next member of the chain -/
theorem pushSequence_semi_tuple_chain {C : Node} (hr : root.op.kind = .tuple)
    (hn : node.op.kind = .chain) (hC : C.op.kind = .chain) :
    pushSequence (C :: s) root node =
      .ok (⟨C.op, C.children ++ [root, Node.rootNode]⟩ :: s) := by
  simp [pushSequence, hr, hn, hC, Operator.isRoot, prec_of_kind hr, prec_of_kind hn,
    prec_of_kind hC, OpKind.precedence, collapseRootStackTo]
end pushSequence

/-- `,`: the item is complete, an empty one begins after it in the open tuple, or in a new one -/
def Lvl.comma (L : Lvl) : Lvl := ⟨⟨some (L.ctx.tup.getD [] ++ [L.item]), L.ctx.chn⟩, []⟩

/-- the current member of the chain: the item, or the open tuple closed over it -/
def Lvl.member (L : Lvl) : Node :=
  match L.ctx.tup with
  | none => L.item
  | some t => ⟨.tuple, t ++ [L.item]⟩

/-- `;`: the member is complete (`;` ends the tuple as well), an empty one begins after it in the
open chain, or in a new one -/
def Lvl.semi (L : Lvl) : Lvl := ⟨⟨none, some (L.ctx.chn.getD [] ++ [L.member])⟩, []⟩

def sepTok : Bool → Token
  | false => .comma
  | true => .semicolon

def Lvl.sep : Bool → Lvl → Lvl
  | false, L => L.comma
  | true, L => L.semi

/-- `,`. The item is there to be taken (second `unreachable!()` of the token loop). -/
theorem push_comma (L : Lvl) (s : List Node) :
    pushAny (L.toList ++ s) (.new .tuple) = .ok (L.comma.toList ++ s) := by
  obtain ⟨⟨_ | t, _ | c⟩, cs⟩ := L <;>
    simp only [pushAny, Lvl.toList, Ctx.frames, List.cons_append, List.nil_append, List.map,
      Lvl.comma, Option.getD, show (Node.new .tuple).op.isSequence = true from rfl, if_true,
      Frame.fill, Frame.node, Lvl.item]
  · exact pushSequence_root s rfl rfl
  · -- an open chain: its current item moves under a new tuple
    rw [pushSequence_comma_chain (root := ⟨.chain, c ++ [_]⟩) _ rfl rfl List.getLast?_concat,
      List.dropLast_concat]
    rfl
  · exact pushSequence_same _ rfl
  · exact pushSequence_same _ rfl

theorem push_semi (L : Lvl) (s : List Node) :
    pushAny (L.toList ++ s) (.new .chain) = .ok (L.semi.toList ++ s) := by
  obtain ⟨⟨_ | t, _ | c⟩, cs⟩ := L <;>
    simp only [pushAny, Lvl.toList, Ctx.frames, List.cons_append, List.nil_append, List.map,
      Lvl.semi, Lvl.member, Option.getD, show (Node.new .chain).op.isSequence = true from rfl,
      if_true, Frame.fill, Frame.node, Lvl.item]
  · exact pushSequence_root s rfl rfl
  · exact pushSequence_same _ rfl
  · -- an open tuple: it becomes the first member of a new chain
    exact pushSequence_semi_tuple_root s rfl rfl rfl
  · -- an open tuple in an open chain: it becomes the next member of the chain
    rw [pushSequence_semi_tuple_chain (C := ⟨.chain, c⟩) _ rfl rfl rfl, List.append_assoc]
    rfl

theorem collapseAllLoop_root (R : Node) (s : List Node) (h : R.op.kind = .rootNode) :
    collapseAllLoop s R =
      if R.hasTooManyChildren then .error .missingOperatorOutsideOfBrace else .ok (R :: s) := by
  have hr : R.op.isRoot = true := isRoot_of_kind h
  rw [collapseAllLoop.eq_def]
  simp only [hr, if_true]

theorem collapseAllLoop_seq (X higher : Node) (s : List Node) (h : X.op.isSequence = true) :
    collapseAllLoop (higher :: s) X = collapseAllLoop s ⟨higher.op, higher.children ++ [X]⟩ := by
  have hr := not_isRoot_of_isSeq h
  rw [collapseAllLoop]
  simp only [hr, h, Bool.false_eq_true, if_false, if_true]


theorem collapse_explicit (L : Lvl) (s : List Node) :
    collapseAllSequences (L.toList ++ s) =
      if L.collapse.hasTooManyChildren then .error .missingOperatorOutsideOfBrace
      else .ok (L.collapse :: s) := by
  obtain ⟨⟨_ | t, _ | c⟩, cs⟩ := L
  · exact collapseAllLoop_root _ s rfl
  · exact (collapseAllLoop_seq _ _ _ rfl).trans (collapseAllLoop_root _ s rfl)
  · exact (collapseAllLoop_seq _ _ _ rfl).trans (collapseAllLoop_root _ s rfl)
  · exact (collapseAllLoop_seq _ _ _ rfl).trans
      ((collapseAllLoop_seq ⟨.chain, c ++ [_]⟩ _ _ rfl).trans (collapseAllLoop_root _ s rfl))

/-- the `root_stack` of `tokens_to_operator_tree` that the levels stand for (head = top) -/
def flat : List Lvl → List Node
  | [] => []
  | L :: ls => L.toList ++ flat ls

theorem flat_length_ge (lv : List Lvl) : lv.length ≤ (flat lv).length := by
  induction lv with
  | nil => simp [flat]
  | cons L ls ih =>
    have := List.length_pos_iff.2 L.toList_ne
    simp only [flat, List.length_append, List.length_cons]
    omega

def Lvl.fresh : Lvl := ⟨⟨none, none⟩, []⟩

/-- one pass of the token loop, on the levels. The flag `last_token_is_rightsided_value` (`lr`) and
the peeked token (`next`) only decide which operator the token becomes (`tokOp`). -/
inductive LvStep (lr : Bool) (next : Option Token) : Token → List Lvl → List Lvl → Prop
  /-- `(` -/
  | opened (lv : List Lvl) : LvStep lr next .lBrace lv (.fresh :: lv)
  /-- an operand or operator token: a fresh node is inserted into the current item -/
  | plain {t : Token} (L : Lvl) (ls : List Lvl) {cs : List Node} : t ≠ .lBrace → t ≠ .rBrace →
      isSepTok t = false → Ins (.new (tokOp lr t next)) L.item ⟨.rootNode, cs⟩ →
      LvStep lr next t (L :: ls) (⟨L.ctx, cs⟩ :: ls)
  /-- `,` or `;` -/
  | sep (semi : Bool) (L : Lvl) (ls : List Lvl) :
      LvStep lr next (sepTok semi) (L :: ls) (L.sep semi :: ls)
  /-- `)`: the top level is folded and inserted into the current item of the level below -/
  | closed (L L2 : Lvl) (ls : List Lvl) {cs : List Node} : Ins L.collapse L2.item ⟨.rootNode, cs⟩ →
      LvStep lr next .rBrace (L :: L2 :: ls) (⟨L2.ctx, cs⟩ :: ls)

theorem LvStep.ne_nil {lr : Bool} {next : Option Token} {t : Token} {lv lv' : List Lvl}
    (h : LvStep lr next t lv lv') : lv' ≠ [] := by
  cases h <;> simp

/-- the errors of one step: those of an insertion (the two of a juxtaposition and the one of a
parenthesis node with two children are among them), or `)` without an open parenthesis -/
def StepErr (lv : List Lvl) (t : Token) (e : Err) : Prop :=
  InsErr e ∨ (e = .unmatchedRBrace ∧ t = .rBrace ∧ lv.length ≤ 1)

theorem pushAny_plain (L : Lvl) (ls : List Lvl) {node : Node} (hn : node.op.isSequence = false) :
    match pushAny (flat (L :: ls)) node with
    | .error e => InsErr e
    | .ok st => ∃ cs, Ins node L.item ⟨.rootNode, cs⟩ ∧ st = flat (⟨L.ctx, cs⟩ :: ls) := by
  rw [flat, push_plain L _ hn]
  cases hx : L.item.insertBackPrioritized node true with
  | error e => exact insertBack_err hx
  | ok x =>
    have hins := insertBack_ins hx
    obtain ⟨_, cs⟩ := x
    cases hins.op_eq
    exact ⟨cs, hins, rfl⟩

theorem treeStep_lvl {lv : List Lvl} (hne : lv ≠ []) (lr li : Bool) (tok : Token)
    (next : Option Token) :
    match treeStep (flat lv) lr li tok next with
    | .error e => StepErr lv tok e
    | .ok st =>
      ∃ lv', st = flat lv' ∧ juxtaposed lr li tok = false ∧ LvStep lr next tok lv lv' := by
  obtain ⟨L, ls, rfl⟩ := List.exists_cons_of_ne_nil hne
  rw [treeStep_eq]
  by_cases hj : juxtaposed lr li tok = true
  · -- two operands side by side: one of two errors that insertions also give
    rw [if_pos hj]; cases tok.isLBrace <;> exact .inl (by simp [InsErr])
  rw [if_neg hj]
  replace hj := Bool.eq_false_iff.2 hj
  by_cases h1 : tok = .lBrace
  · -- `(`: a fresh parenthesis node on the stack
    subst h1
    exact ⟨.fresh :: L :: ls, rfl, hj, .opened _⟩
  by_cases h2 : tok = .rBrace
  · -- `)`
    subst h2
    simp only [tokenToNode]
    by_cases hl : (flat (L :: ls)).length ≤ 1
    · -- a single node on the stack: `UnmatchedRBrace`
      have := flat_length_ge (L :: ls)
      rw [if_pos hl]; exact .inr ⟨rfl, rfl, by omega⟩
    rw [if_neg hl, flat, collapse_explicit L]
    by_cases htm : L.collapse.hasTooManyChildren = true
    · -- the folded level is a parenthesis node with two children
      rw [if_pos htm]; exact .inl (.inr (.inr rfl))
    rw [if_neg htm]
    cases ls with
    | nil => exact .inr ⟨rfl, rfl, by simp⟩  -- nothing below to take the folded level
    | cons L2 ls' =>
      -- the folded level is inserted into the level below
      have := pushAny_plain L2 ls' (node := L.collapse) (isSeq_of_kind L.collapse_kind)
      simp only
      cases hp : pushAny (flat (L2 :: ls')) L.collapse with
      | error e => rw [hp] at this; exact .inl this
      | ok st =>
        rw [hp] at this
        obtain ⟨cs, hins, rfl⟩ := this
        exact ⟨_, rfl, hj, .closed L L2 ls' hins⟩
  · -- any other token: a fresh node `tokOp`
    obtain ⟨hn, hseq⟩ := tokenToNode_eq (flat (L :: ls)) lr tok next h1 h2
    rw [hn]
    simp only
    cases h3 : isSepTok tok with
    | true =>
      rcases sepTok_cases h3 with rfl | rfl
      · rw [flat, show tokOp lr .comma next = .tuple from rfl, push_comma]
        exact ⟨_, rfl, hj, .sep false L ls⟩
      · rw [flat, show tokOp lr .semicolon next = .chain from rfl, push_semi]
        exact ⟨_, rfl, hj, .sep true L ls⟩
    | false =>
      -- operand or operator
      have := pushAny_plain L ls (node := .new (tokOp lr tok next)) (hseq.trans h3)
      cases hp : pushAny (flat (L :: ls)) (.new (tokOp lr tok next)) with
      | error e => rw [hp] at this; exact .inl this
      | ok st =>
        rw [hp] at this
        obtain ⟨cs, hins, rfl⟩ := this
        exact ⟨_, rfl, hj, .plain L ls h1 h2 h3 hins⟩

section loop
variable {I : Option Token → List Token → List Lvl → Prop}

/-- `I` relates the previous token, the tokens still to be read and the levels; every move
preserves it -/
def Preserved (I : Option Token → List Token → List Lvl → Prop) : Prop :=
  ∀ prev t rest lv lv', I prev (t :: rest) lv →
    juxtaposed (prevRS prev) (prevId prev) t = false →
    LvStep (prevRS prev) rest.head? t lv lv' → I (some t) rest lv'

/-- where a run of the token loop from a state satisfying `I` can end -/
def LoopRes (I : Option Token → List Token → List Lvl → Prop) : Res (List Node) → Prop
  | .ok st => ∃ prev lv, st = flat lv ∧ lv ≠ [] ∧ I prev [] lv
  | .error e => ∃ prev t rest lv, I prev (t :: rest) lv ∧ StepErr lv t e

theorem treeLoop_lvl
    (step : Preserved I) (ts : List Token) :
    ∀ (prev : Option Token) (lv : List Lvl), lv ≠ [] → I prev ts lv →
      LoopRes I (treeLoop ts (flat lv) (prevRS prev) (prevId prev)) := by
  induction ts with
  | nil => intro prev lv hne hI; exact ⟨prev, lv, rfl, hne, hI⟩
  | cons tok rest ih =>
    intro prev lv hne hI
    have hs := treeStep_lvl hne (prevRS prev) (prevId prev) tok rest.head?
    rw [treeLoop]
    cases h1 : treeStep (flat lv) (prevRS prev) (prevId prev) tok rest.head? with
    | error e => rw [h1] at hs; exact ⟨prev, tok, rest, lv, hI, hs⟩
    | ok st1 =>
      rw [h1] at hs
      obtain ⟨lv1, rfl, hj, hstep⟩ := hs
      exact ih (some tok) lv1 hstep.ne_nil (step _ _ _ _ _ hI hj hstep)

/-- where `tokensToOperatorTree` can end: with the fold of a single level; with the error of a
step; or, all tokens read, with a parenthesis node of two children or an open parenthesis -/
def BuildRes (I : Option Token → List Token → List Lvl → Prop) : Res Node → Prop
  | .ok t => ∃ prev L, I prev [] [L] ∧ t = L.collapse
  | .error e => (∃ prev t rest lv, I prev (t :: rest) lv ∧ StepErr lv t e) ∨
      ∃ prev lv, I prev [] lv ∧
        (e = .missingOperatorOutsideOfBrace ∨ e = .unmatchedLBrace ∧ 2 ≤ lv.length)

theorem build_lvl
    (step : Preserved I) (ts : List Token)
    (h0 : I none ts [.fresh]) : BuildRes I (tokensToOperatorTree ts) := by
  have h := treeLoop_lvl step ts none [.fresh] (by simp) h0
  unfold tokensToOperatorTree
  change LoopRes I (treeLoop ts [Node.rootNode] false false) at h
  cases hl : treeLoop ts [Node.rootNode] false false with
  | error e => rw [hl] at h; exact .inl h  -- the loop stopped at a step
  | ok st =>
    -- all tokens read: `collapse_all_sequences`, then the length test
    rw [hl] at h
    obtain ⟨prev, lv, rfl, hne, hI⟩ := h
    cases lv with
    | nil => exact absurd rfl hne
    | cons L ls =>
      simp only [flat]
      rw [collapse_explicit L]
      by_cases htm : L.collapse.hasTooManyChildren = true
      · -- the folded top level is a parenthesis node with two children
        simp only [htm, if_true]; exact .inr ⟨prev, _, hI, .inl rfl⟩
      · simp only [htm, Bool.false_eq_true, if_false]
        cases ls with
        | nil => exact ⟨prev, L, hI, rfl⟩  -- a single level: its fold is the tree
        | cons L2 ls =>
          -- a level below: `UnmatchedLBrace`
          have := flat_length_ge (L2 :: ls)
          have hlen : (L.collapse :: flat (L2 :: ls)).length > 1 := by
            simp only [List.length_cons] at this ⊢; omega
          simp only [hlen, if_true]
          exact .inr ⟨prev, _, hI, .inr ⟨rfl, by simp⟩⟩
end loop

end Evalexpr.Spec

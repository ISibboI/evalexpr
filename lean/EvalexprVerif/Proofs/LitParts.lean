/-
Proofs/LitParts.lean — C06 helpers: characters, the sign / digit / dot / exponent parts of a numeric
word, `F64.parseMagnitude` as an equation over these parts, and the spec-side grammar (`isMantissa`,
`splitExp`) in terms of the same parts.
-/
import EvalexprVerif.Spec.Literals
import EvalexprVerif.Proofs.LexChars

namespace Evalexpr.Spec
open Evalexpr

theorem char_le_iff (a b : Char) : a ≤ b ↔ a.toNat ≤ b.toNat := by
  rw [Char.le_def, UInt32.le_iff_toNat_le]; rfl

theorem isDigit_iff (c : Char) : F64.isDigit c = true ↔ 48 ≤ c.toNat ∧ c.toNat ≤ 57 := by
  simp [F64.isDigit, char_le_iff]

theorem ne_of_isDigit (c d : Char) (h : F64.isDigit c = true) (hd : F64.isDigit d = false) : c ≠ d := by
  intro e; subst e; simp [hd] at h

theorem lowerAscii_of_isDigit (c : Char) (h : F64.isDigit c = true) : F64.lowerAscii c = c := by
  rw [isDigit_iff] at h
  have : ('A' ≤ c && c ≤ 'Z') = false := by
    cases hh : ('A' ≤ c && c ≤ 'Z')
    · rfl
    · simp [char_le_iff] at hh; omega
  simp [F64.lowerAscii, this]

theorem isDigits_iff (w : Str) : isDigits w = true ↔ w ≠ [] ∧ w.all F64.isDigit = true := by
  cases w <;> simp [isDigits]

def isSignChar (c : Char) : Bool := c == '+' || c == '-'

theorem isSignChar_iff (c : Char) : isSignChar c = true ↔ c = '+' ∨ c = '-' := by
  simp [isSignChar]

theorem not_isSignChar_of_isDigit (c : Char) (h : F64.isDigit c = true) : ¬ isSignChar c = true := by
  intro hs
  rcases (isSignChar_iff c).1 hs with rfl | rfl <;> revert h <;> decide

theorem not_isSignChar_of_digit_or_dot (c : Char) (h : F64.isDigit c = true ∨ c = '.') :
    ¬ isSignChar c = true := by
  rcases h with h | rfl
  · exact not_isSignChar_of_isDigit c h
  · decide

theorem not_isSignChar_of_numChar (c : Char)
    (h : (F64.isDigit c = true ∨ c = '.') ∨ c = 'e' ∨ c = 'E') : ¬ isSignChar c = true := by
  rcases h with h | rfl | rfl
  · exact not_isSignChar_of_digit_or_dot c h
  all_goals decide

theorem not_isSignChar_of_isWord (w : Str) (hw : isWord w = true) :
    ∀ c ∈ w, ¬ isSignChar c = true := by
  intro c hc hs
  simp only [isWord, Bool.and_eq_true, List.all_eq_true] at hw
  have hsp := ((isWordChar_iff c).1 (hw.2 c hc)).1
  rcases (isSignChar_iff c).1 hs with rfl | rfl <;> exact hsp (by decide)

theorem lowerAscii_sign (s : Char) (hs : isSignChar s = true) : F64.lowerAscii s = s := by
  rcases (isSignChar_iff s).1 hs with rfl | rfl <;> decide

/-- the optional sign in front of the digits, as `i64::from_str`, `i64::from_str_radix` and the
exponent of `f64::from_str` split it off -/
def signSplit (w : Str) : Bool × Str :=
  match w with
  | '-' :: r => (true, r) | '+' :: r => (false, r) | r => (false, r)

theorem signSplit_cases (w : Str) :
    (∃ r, w = '-' :: r ∧ signSplit w = (true, r)) ∨ (∃ r, w = '+' :: r ∧ signSplit w = (false, r)) ∨
      signSplit w = (false, w) := by
  unfold signSplit
  split
  · exact .inl ⟨_, rfl, rfl⟩
  · exact .inr (.inl ⟨_, rfl, rfl⟩)
  · exact .inr (.inr rfl)

theorem signSplit_unsigned (w : Str) (h : ∀ c ∈ w, ¬ isSignChar c = true) :
    signSplit w = (false, w) := by
  rcases signSplit_cases w with ⟨r, rfl, -⟩ | ⟨r, rfl, -⟩ | h'
  · exact absurd (by decide) (h '-' (by simp))
  · exact absurd (by decide) (h '+' (by simp))
  · exact h'

theorem parseBits_unsigned (w : Str) (h : ∀ c r, w = c :: r → ¬ isSignChar c = true) :
    F64.parseBits w = F64.parseMagnitude w := by
  unfold F64.parseBits
  split
  · exact absurd (by decide) (h '-' _ rfl)
  · exact absurd (by decide) (h '+' _ rfl)
  · rfl

theorem parseMagnitude_of_parse (w : Str) (h0 : ∀ c r, w = c :: r → ¬ isSignChar c = true)
    (h : F64.parse w ≠ none) : F64.parseMagnitude w ≠ none := by
  intro hm
  apply h
  rw [F64.parse, parseBits_unsigned w h0, hm]; rfl

/-- the exponent part of `F64.parseMagnitude` -/
def expoOf (rest : Str) : Option Int :=
  match rest with
  | [] => some 0
  | e :: r =>
    if e == 'e' || e == 'E' then
      let (neg, r) := match r with
        | '-' :: r' => (true, r') | '+' :: r' => (false, r') | r' => (false, r')
      if r.isEmpty || !r.all F64.isDigit then none
      else
        let v := F64.digitsVal r
        some (if neg then -(v : Int) else v)
    else none

theorem expoOf_nil : expoOf [] = some 0 := rfl

theorem expoOf_cons (e : Char) (r : Str) : expoOf (e :: r) =
    if e == 'e' || e == 'E' then
      if (signSplit r).2.isEmpty || !(signSplit r).2.all F64.isDigit then none
      else some (if (signSplit r).1 then -(F64.digitsVal (signSplit r).2 : Int)
        else F64.digitsVal (signSplit r).2)
    else none := rfl

theorem expoOf_shape (rest : Str) (h : expoOf rest ≠ none) :
    rest = [] ∨ ∃ e r, rest = e :: r ∧ (e = 'e' ∨ e = 'E') ∧
      (isDigits r = true ∨ ∃ sg r', r = sg :: r' ∧ isSignChar sg = true ∧ isDigits r' = true) := by
  cases rest with
  | nil => exact Or.inl rfl
  | cons e r =>
    right
    refine ⟨e, r, rfl, ?_⟩
    rw [expoOf_cons] at h
    split at h
    · rename_i he
      refine ⟨by simpa using he, ?_⟩
      split at h
      · exact absurd rfl h  -- no digits after the optional sign
      rename_i hd
      have hd' : isDigits (signSplit r).2 = true := by simpa [isDigits] using hd
      rcases signSplit_cases r with ⟨r', rfl, hs⟩ | ⟨r', rfl, hs⟩ | hs <;> rw [hs] at hd'
      · exact .inr ⟨_, _, rfl, by decide, hd'⟩  -- `-` and digits
      · exact .inr ⟨_, _, rfl, by decide, hd'⟩  -- `+` and digits
      · exact .inl hd'  -- digits
    · exact absurd rfl h  -- `e` is neither `e` nor `E`

theorem expoOf_signed (e : Char) (r : Str) (he : e = 'e' ∨ e = 'E')
    (hd : isDigits (signSplit r).2 = true) :
    expoOf (e :: r) = some (if (signSplit r).1 then -(F64.digitsVal (signSplit r).2 : Int)
      else F64.digitsVal (signSplit r).2) := by
  have hee : (e == 'e' || e == 'E') = true := by rcases he with rfl | rfl <;> decide
  have hd' : ((signSplit r).2.isEmpty || !(signSplit r).2.all F64.isDigit) = false := by
    simpa [isDigits] using hd
  rw [expoOf_cons, hee, hd']; rfl

theorem expoOf_unsigned (e : Char) (ex : Str) (he : e = 'e' ∨ e = 'E') (hex : isDigits ex = true) :
    expoOf (e :: ex) = some (F64.digitsVal ex : Int) := by
  have hs := signSplit_unsigned ex fun c hc =>
    not_isSignChar_of_isDigit c (List.all_eq_true.1 ((isDigits_iff ex).1 hex).2 c hc)
  rw [expoOf_signed e ex he (by rw [hs]; exact hex), hs]; rfl

theorem digitsVal_eq_decValue (w : Str) : F64.digitsVal w = decValue w := rfl

/-- the final computation of `F64.parseMagnitude` -/
def magOf (digits : Str) (fplen : Nat) (e10 : Int) : UInt64 :=
  let m := F64.digitsVal digits
  let e10 := e10 - fplen
  if m == 0 then 0
  else
    let nd : Int := F64.decLen m
    if e10 + nd > 400 then 0x7ff0000000000000
    else if e10 + nd < -400 then 0
    else if e10 ≥ 0 then (F64.roundRat (m * 10 ^ e10.toNat) 1)
    else (F64.roundRat m (10 ^ (-e10).toNat))

/-- the fraction digits after the integer part, and what follows them -/
def dotSplit (rest : Str) : Str × Str :=
  match rest with
  | '.' :: r => (r.takeWhile F64.isDigit, r.dropWhile F64.isDigit)
  | r => ([], r)

theorem not_inf_nan_of_startsLikeNumber (cs : Str) (h : startsLikeNumber cs = true) :
    (cs.map F64.lowerAscii == cl!"inf" || cs.map F64.lowerAscii == cl!"infinity") = false ∧
    (cs.map F64.lowerAscii == cl!"nan") = false := by
  cases cs with
  | nil => simp [startsLikeNumber] at h
  | cons c cs =>
    simp only [startsLikeNumber, Bool.or_eq_true, beq_iff_eq] at h
    have hl : F64.lowerAscii c = c := by
      rcases h with h | rfl
      · exact lowerAscii_of_isDigit c h
      · decide
    have hi : c ≠ 'i' := by
      rcases h with h | rfl
      · exact ne_of_isDigit _ _ h (by decide)
      · decide
    have hn : c ≠ 'n' := by
      rcases h with h | rfl
      · exact ne_of_isDigit _ _ h (by decide)
      · decide
    simp [hl, hi, hn]

/-- apart from the three names, `F64.parseMagnitude` reads integer digits, fraction digits and an
exponent part -/
theorem parseMagnitude_eq (cs : Str)
    (h1 : (cs.map F64.lowerAscii == cl!"inf" || cs.map F64.lowerAscii == cl!"infinity") = false)
    (h2 : (cs.map F64.lowerAscii == cl!"nan") = false) :
    F64.parseMagnitude cs =
      if (cs.takeWhile F64.isDigit).isEmpty && (dotSplit (cs.dropWhile F64.isDigit)).1.isEmpty then none
      else (expoOf (dotSplit (cs.dropWhile F64.isDigit)).2).map
        (magOf (cs.takeWhile F64.isDigit ++ (dotSplit (cs.dropWhile F64.isDigit)).1)
          (dotSplit (cs.dropWhile F64.isDigit)).1.length) := by
  unfold F64.parseMagnitude
  rw [if_neg (by rw [h1]; exact Bool.false_ne_true), if_neg (by rw [h2]; exact Bool.false_ne_true)]
  generalize cs.takeWhile F64.isDigit = I
  generalize cs.dropWhile F64.isDigit = D
  show (if (I.isEmpty && (dotSplit D).1.isEmpty) = true then none
    else match expoOf (dotSplit D).2 with
      | none => none
      | some e10 => _) = _
  split
  · rfl
  · cases expoOf (dotSplit D).2 with
    | none => rfl
    | some e10 =>
      simp only [magOf, Option.map_some, apply_ite some]
      rfl

theorem takeWhile_dropWhile_append {α} (p : α → Bool) (a x : List α) (ha : a.all p = true)
    (hx : ∀ c r, x = c :: r → p c = false) :
    (a ++ x).takeWhile p = a ∧ (a ++ x).dropWhile p = x := by
  induction a with
  | nil =>
    cases x with
    | nil => simp
    | cons c r => simp [hx c r rfl]
  | cons c a ih =>
    simp only [List.all_cons, Bool.and_eq_true] at ha
    simp [ha.1, ih ha.2]

theorem takeWhile_dropWhile_self {α} (p : α → Bool) (a : List α) (ha : a.all p = true) :
    a.takeWhile p = a ∧ a.dropWhile p = [] := by
  have := takeWhile_dropWhile_append p a [] ha nofun
  rwa [List.append_nil] at this

theorem dot_not_digit (l : Str) : ∀ c r, '.' :: l = c :: r → F64.isDigit c = false := by
  intro c r h
  simp only [List.cons.injEq] at h
  rw [← h.1]; decide

theorem dotSplit_cases (D : Str) :
    (∃ r, D = '.' :: r ∧ dotSplit D = (r.takeWhile F64.isDigit, r.dropWhile F64.isDigit)) ∨
      dotSplit D = ([], D) := by
  unfold dotSplit
  split
  · exact .inl ⟨_, rfl, rfl⟩
  · exact .inr rfl

theorem dotSplit_nodot (rest : Str) (hr : ∀ c r, rest = c :: r → c ≠ '.') :
    dotSplit rest = ([], rest) := by
  rcases dotSplit_cases rest with ⟨r, rfl, -⟩ | h
  · exact absurd rfl (hr '.' r rfl)
  · exact h

theorem dotSplit_dot (fp rest : Str) (hfp : fp.all F64.isDigit = true)
    (hr : ∀ c r, rest = c :: r → F64.isDigit c = false) :
    dotSplit ('.' :: (fp ++ rest)) = (fp, rest) := by
  obtain ⟨h1, h2⟩ := takeWhile_dropWhile_append _ fp rest hfp hr
  simp only [dotSplit, h1, h2]

theorem isEmpty_and_isEmpty {α} (a b : List α) :
    (a.isEmpty && b.isEmpty) = false ↔ ¬(a = [] ∧ b = []) := by
  cases a <;> cases b <;> simp

theorem isMantissa_cases (m : Str) (h : isMantissa m = true) :
    (m ≠ [] ∧ m.all F64.isDigit = true) ∨
    ∃ ip fp, m = ip ++ '.' :: fp ∧ ip.all F64.isDigit = true ∧ fp.all F64.isDigit = true ∧
      ¬(ip = [] ∧ fp = []) := by
  have hm : m = m.takeWhile F64.isDigit ++ m.dropWhile F64.isDigit := by simp
  have hI : (m.takeWhile F64.isDigit).all F64.isDigit = true := List.all_takeWhile
  unfold isMantissa at h
  simp only [] at h
  generalize m.takeWhile F64.isDigit = I at *
  generalize m.dropWhile F64.isDigit = D at *
  split at h
  · rw [hm, List.append_nil]
    exact .inl ⟨fun hI0 => (by rw [hI0] at h; cases h), hI⟩
  · rename_i fp
    simp only [Bool.and_eq_true, Bool.not_eq_true', isEmpty_and_isEmpty] at h
    exact .inr ⟨I, fp, hm, hI, h.1, h.2⟩
  · cases h

theorem isMantissa_digits (ip : Str) (hip : ip.all F64.isDigit = true) (hne : ip ≠ []) :
    isMantissa ip = true := by
  obtain ⟨h1, h2⟩ := takeWhile_dropWhile_self _ ip hip
  unfold isMantissa
  simp only [h1, h2, List.isEmpty_eq_false_iff.2 hne]
  rfl

theorem isMantissa_dot (ip fp : Str) (hip : ip.all F64.isDigit = true)
    (hfp : fp.all F64.isDigit = true) (hne : ¬(ip = [] ∧ fp = [])) :
    isMantissa (ip ++ '.' :: fp) = true := by
  obtain ⟨h1, h2⟩ := takeWhile_dropWhile_append _ ip ('.' :: fp) hip (dot_not_digit fp)
  unfold isMantissa
  simp only [h1, h2, hfp, (isEmpty_and_isEmpty ip fp).2 hne]
  rfl

theorem mantissa_chars (m : Str) (h : isMantissa m = true) :
    ∀ c ∈ m, F64.isDigit c = true ∨ c = '.' := by
  intro c hc
  rcases isMantissa_cases m h with ⟨-, hd⟩ | ⟨ip, fp, rfl, hip, hfp, -⟩
  · exact Or.inl (List.all_eq_true.1 hd c hc)
  · simp only [List.mem_append, List.mem_cons] at hc
    rcases hc with hc | hc | hc
    · exact Or.inl (List.all_eq_true.1 hip c hc)
    · exact Or.inr hc
    · exact Or.inl (List.all_eq_true.1 hfp c hc)

theorem mantissa_head (m : Str) (h : isMantissa m = true) :
    ∃ c r, m = c :: r ∧ (F64.isDigit c = true ∨ c = '.') := by
  cases m with
  | nil => simp [isMantissa] at h
  | cons c r => exact ⟨c, r, rfl, mantissa_chars _ h c (by simp)⟩

theorem startsLikeNumber_mantissa (m tail : Str) (h : isMantissa m = true) :
    startsLikeNumber (m ++ tail) = true := by
  obtain ⟨c, r, rfl, hc⟩ := mantissa_head m h
  rcases hc with hc | rfl <;> simp [startsLikeNumber, *]

def notE (c : Char) : Bool := c != 'e' && c != 'E'

theorem span_loop_eq {α : Type} (p : α → Bool) (l acc : List α) :
    List.span.loop p l acc = (acc.reverse ++ l.takeWhile p, l.dropWhile p) := by
  induction l generalizing acc with
  | nil => simp [List.span.loop]
  | cons a l ih =>
    cases h : p a
    · simp [List.span.loop, h]
    · simp [List.span.loop, h, ih]

theorem span_eq {α : Type} (p : α → Bool) (l : List α) :
    l.span p = (l.takeWhile p, l.dropWhile p) := by
  simp [List.span, span_loop_eq]

theorem splitExp_append (m tail : Str) (hm : m.all notE = true)
    (ht : ∀ c r, tail = c :: r → notE c = false) :
    splitExp (m ++ tail) = (m, match tail with | [] => none | _ :: ex => some ex) := by
  obtain ⟨h1, h2⟩ := takeWhile_dropWhile_append notE m tail hm ht
  unfold splitExp
  rw [span_eq]
  show (match (List.takeWhile notE (m ++ tail), List.dropWhile notE (m ++ tail)) with
    | (m, []) => (m, none) | (m, _ :: ex) => (m, some ex)) = _
  rw [h1, h2]
  cases tail <;> rfl

theorem splitExp_none (m : Str) (hm : m.all notE = true) : splitExp m = (m, none) := by
  have := splitExp_append m [] hm nofun
  rwa [List.append_nil] at this

theorem splitExp_some (m ex : Str) (e : Char) (hm : m.all notE = true) (he : e = 'e' ∨ e = 'E') :
    splitExp (m ++ e :: ex) = (m, some ex) :=
  splitExp_append m (e :: ex) hm fun c r h => by
    cases h; rcases he with rfl | rfl <;> decide

theorem splitExp_cases (w : Str) :
    (splitExp w = (w, none)) ∨
    ∃ m e ex, w = m ++ e :: ex ∧ (e = 'e' ∨ e = 'E') ∧ splitExp w = (m, some ex) := by
  have hw : w = w.takeWhile notE ++ w.dropWhile notE := by simp
  have hT : (w.takeWhile notE).all notE = true := List.all_takeWhile
  have hD := List.head?_dropWhile_not notE w
  generalize w.takeWhile notE = T at *
  generalize w.dropWhile notE = D at *
  cases D with
  | nil => left; rw [hw, List.append_nil]; exact splitExp_none T hT
  | cons e ex =>
    right
    simp only [List.head?_cons, notE, Bool.and_eq_false_iff, bne_eq_false_iff_eq] at hD
    exact ⟨T, e, ex, hw, hD, by rw [hw]; exact splitExp_some T ex e hT hD⟩

theorem notE_of_isMantissa (m : Str) (h : isMantissa m = true) : m.all notE = true := by
  rw [List.all_eq_true]
  intro c hc
  rcases mantissa_chars m h c hc with h | rfl
  · simp [notE, ne_of_isDigit c 'e' h (by decide), ne_of_isDigit c 'E' h (by decide)]
  · decide

theorem isFloatLit_cases (w : Str) (h : isFloatLit w = true) :
    isMantissa w = true ∨
    ∃ m e ex, w = m ++ e :: ex ∧ (e = 'e' ∨ e = 'E') ∧ isMantissa m = true ∧ isDigits ex = true := by
  unfold isFloatLit at h
  rcases splitExp_cases w with hs | ⟨m, e, ex, hw, he, hs⟩
  · rw [hs] at h; exact Or.inl h
  · rw [hs] at h
    simp only [Bool.and_eq_true] at h
    exact Or.inr ⟨m, e, ex, hw, he, h.1, h.2⟩

/-- the characters of a float literal: digits, the dot, `e`, `E` -/
theorem isFloatLit_chars (w : Str) (h : isFloatLit w = true) :
    ∀ c ∈ w, (F64.isDigit c = true ∨ c = '.') ∨ c = 'e' ∨ c = 'E' := by
  intro c hc
  rcases isFloatLit_cases w h with hm | ⟨m, e, ex, rfl, he, hm, hex⟩
  · exact .inl (mantissa_chars w hm c hc)
  · simp only [List.mem_append, List.mem_cons] at hc
    rcases hc with hc | rfl | hc
    · exact .inl (mantissa_chars m hm c hc)
    · exact .inr he
    · exact .inl (.inl (List.all_eq_true.1 ((isDigits_iff ex).1 hex).2 c hc))

theorem isFloatLit_of_mantissa (m : Str) (h : isMantissa m = true) : isFloatLit m = true := by
  unfold isFloatLit
  rw [splitExp_none m (notE_of_isMantissa m h)]
  exact h

theorem isFloatLit_of_exp (m ex : Str) (e : Char) (hm : isMantissa m = true) (he : e = 'e' ∨ e = 'E')
    (hex : isDigits ex = true) : isFloatLit (m ++ e :: ex) = true := by
  unfold isFloatLit
  rw [splitExp_some m ex e (notE_of_isMantissa m hm) he]
  simp [hm, hex]

end Evalexpr.Spec

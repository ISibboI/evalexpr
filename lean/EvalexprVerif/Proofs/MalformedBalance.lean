/-
Proofs/MalformedBalance.lean — C13 (iii): two juxtaposed operands are rejected by the tree builder;
C13 (i): the tree builder reports unbalanced parentheses, and reports a parenthesis error only for
unbalanced input (the levels of Proofs/TreeLevels.lean count the open parentheses).
-/
import EvalexprVerif.Spec.WellFormed
import EvalexprVerif.Proofs.TreeLevels

namespace Evalexpr.Spec
open Evalexpr

theorem juxtaposedAt_eq (prev : Option Token) (t : Token) :
    juxtaposedAt prev t = juxtaposed (prevRS prev) (prevId prev) t := by
  cases prev <;> simp [juxtaposedAt, juxtaposed, prevRS, prevId]

/-- (iii) two juxtaposed operands are rejected when the tree is built -/
theorem C13_juxtaposed (ts : List Token) (h : juxtaposedIn none ts = true) :
    ∃ e, tokensToOperatorTree ts = .error e := by
  -- the juxtaposition is still to come: no step gets past it
  have hb := build_lvl (I := fun prev ts _ => juxtaposedIn prev ts = true)
    (fun prev t rest _ _ hI hj _ => by
      simp only [juxtaposedIn, Bool.or_eq_true] at hI
      rcases hI with hI | hI
      · rw [juxtaposedAt_eq, hj] at hI; cases hI
      · exact hI) ts h
  cases hr : tokensToOperatorTree ts with
  | error e => exact ⟨e, rfl⟩
  | ok t =>
    rw [hr] at hb
    obtain ⟨_, _, hI, _⟩ := hb
    simp [juxtaposedIn] at hI

/-- the shapes of a level as a predicate on the flat stack (`Ctx.frames` of Proofs/TreeLevels.lean,
said of `Lvl.toList`) -/
inductive StkLevel : List Node → Prop
  | r (R : Node) : R.op.kind = .rootNode → StkLevel [R]
  | t (T P : Node) : T.op.kind = .tuple → P.op.kind = .rootNode → StkLevel [T, P]
  | c (C P : Node) : C.op.kind = .chain → P.op.kind = .rootNode → StkLevel [C, P]
  | tc (T C P : Node) : T.op.kind = .tuple → C.op.kind = .chain → P.op.kind = .rootNode →
      StkLevel [T, C, P]

/-- a stack of `n` levels -/
inductive Stk : Nat → List Node → Prop
  | nil : Stk 0 []
  | cons {l s : List Node} {n : Nat} : StkLevel l → Stk n s → Stk (n + 1) (l ++ s)

theorem Stk.single (R : Node) (h : R.op.kind = .rootNode) : Stk 1 [R] :=
  Stk.cons (StkLevel.r R h) Stk.nil

def isBraceErr : Err → Bool
  | .unmatchedLBrace | .unmatchedRBrace => true
  | _ => false

theorem InsErr.noBrace {e : Err} (h : InsErr e) : isBraceErr e = false := by
  rcases h with rfl | rfl | rfl <;> rfl

theorem balancedFrom_other (d : Nat) (tok : Token) (rest : List Token)
    (h1 : tok ≠ .lBrace) (h2 : tok ≠ .rBrace) :
    balancedFrom d (tok :: rest) = balancedFrom d rest :=
  balancedFrom.eq_5 d tok rest h1 (fun _ => h2) (fun _ _ => h2)

/-- the invariant: with `d + 1` levels on the stack, `d` parentheses are open; `B` is the verdict
of `balanced` on the whole input -/
def BalI (B : Bool) (_ : Option Token) (ts : List Token) (lv : List Lvl) : Prop :=
  ∃ d, lv.length = d + 1 ∧ balancedFrom d ts = B

theorem BalI.step (B : Bool) : Preserved (BalI B) := by
  intro prev t rest lv lv' ⟨d, hd, hb⟩ _ hs
  cases hs with
  | opened => exact ⟨d + 1, by simp [hd], hb⟩
  | plain L ls h1 h2 =>
    exact ⟨d, by simpa using hd, by rwa [balancedFrom_other d t rest h1 h2] at hb⟩
  | sep semi L ls =>
    refine ⟨d, by simpa using hd, ?_⟩
    rwa [balancedFrom_other d _ rest (by cases semi <;> exact Token.noConfusion)
      (by cases semi <;> exact Token.noConfusion)] at hb
  | closed L L2 ls =>
    cases d with
    | zero => simp at hd
    | succ d => exact ⟨d, by simpa using hd, hb⟩

theorem build_balance (ts : List Token) :
    BuildRes (BalI (balanced ts)) (tokensToOperatorTree ts) :=
  build_lvl (BalI.step _) ts ⟨0, rfl, rfl⟩

/-- (i) unbalanced parentheses are rejected when the tree is built -/
theorem C13_unbalanced (ts : List Token) (h : balanced ts = false) :
    ∃ e, tokensToOperatorTree ts = .error e := by
  have hb := build_balance ts
  cases hr : tokensToOperatorTree ts with
  | error e => exact ⟨e, rfl⟩
  | ok t =>
    -- a tree is the fold of a single level: no parenthesis is open at the end
    rw [hr, h] at hb
    obtain ⟨_, L, ⟨d, hd, hb⟩, _⟩ := hb
    simp only [List.length_singleton] at hd
    have : d = 0 := by omega
    subst this
    cases hb

/-- (i') balanced input is never reported as unbalanced -/
theorem C13_balanced_ok (ts : List Token) (h : balanced ts = true) :
    tokensToOperatorTree ts ≠ .error .unmatchedLBrace ∧
    tokensToOperatorTree ts ≠ .error .unmatchedRBrace := by
  have key : ∀ e, tokensToOperatorTree ts = .error e → isBraceErr e = false := by
    intro e he
    have hb := build_balance ts
    rw [he, h] at hb
    rcases hb with ⟨_, _, _, lv, ⟨d, hd, hb⟩, hi | ⟨rfl, rfl, hl⟩⟩ |
      ⟨_, lv, ⟨d, hd, hb⟩, rfl | ⟨rfl, hl⟩⟩
    · exact hi.noBrace
    · -- `)` on a single level: the balance would go negative
      have : d = 0 := by omega
      subst this; cases hb
    · rfl
    · -- two levels at the end: a parenthesis is still open
      have : d ≠ 0 := by omega
      simp [balancedFrom, this] at hb
  constructor <;> intro h0 <;> have := key _ h0 <;> cases this

end Evalexpr.Spec

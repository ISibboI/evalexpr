/-
Proofs/AgreeFnTree.lean — `Node::eval_with_context` and `Node::eval_with_context_mut` as translated from
src/tree/mod.rs on this run (`Generated/FnTree.lean`) equal the Model's `Node.evalRO` / `Node.evalMut`
for ALL trees and states.

Both walkers are compared with the Model's generic walk `Spec.evalG ap` (Proofs/EvalInduction.lean) by
induction on the tree (`Rs.node_ind`); the `for child in self.children()` loop is identified with the list evaluator through
`Rs.M.run_forIn_push_bind`, whose hypothesis (one iteration = evaluate the child, stop on error, append the value) is
discharged by symbolic execution of the generated loop body, whatever its syntactic shape. The typed and the
context-free entry points are instances of one lemma each (`typed_run`, `fresh_run`).
-/
import EvalexprVerif.Generated.FnTree
import EvalexprVerif.Translate.Lemmas
import EvalexprVerif.Proofs.AgreeFnOperator
import EvalexprVerif.Proofs.AgreeFnContext
import EvalexprVerif.Model.Interface
import EvalexprVerif.Proofs.EvalInduction

namespace Evalexpr.AgreeFn
open Evalexpr

theorem fn_Node_children_agree (n : Node) : Gen.Node.children n = n.children := rfl
theorem fn_Node_operator_agree (n : Node) : Gen.Node.operator n = n.op := rfl

/-- the in-order list evaluator of the loop lemma, at the generic walk `evalG ap` (Proofs/EvalInduction.lean) -/
theorem seqList_evalG (ap : Operator → List Value → St → Res Value × St) (cs : List Node) (s : St) :
    Rs.seqList (Spec.evalG ap) cs s = Spec.evalGList ap cs s := by
  induction cs generalizing s with
  | nil => rw [Rs.seqList, Spec.evalGList]
  | cons c cs ih =>
    rw [Rs.seqList, Spec.evalGList]
    -- the first child fails, or it yields `v` and the rest fails or not
    rcases Spec.evalG ap c s with ⟨_ | v, s1⟩
    · rfl
    · simp only [ih]
      rcases Spec.evalGList ap cs s1 with ⟨_ | _, _⟩ <;> eq_refl

/-! The two walkers differ in the operator application only, like the Model's (`Spec.evalG ap`); each is compared with
`evalG` at its `ap` by induction on the tree, with the same script. -/

theorem eval_with_context_evalG (n : Node) (s : St) :
    Gen.Node.eval_with_context n s = Spec.evalG Operator.eval n s := by
  induction n using Rs.node_ind generalizing s with | _ op cs IH
  rw [Gen.Node.eval_with_context.eq_1, Spec.evalG, ← seqList_evalG]
  simp only [fn_Node_children_agree, fn_Node_operator_agree, Rs.Vec.new_def]
  rw [Rs.M.run_forIn_push_bind (Spec.evalG Operator.eval)]
  · -- after the loop: a child failed, or the operator is applied to the values
    simp only [List.attach_map_subtype_val, List.nil_append, fn_Operator_eval_eq, rs_exec]
    rcases Rs.seqList _ cs s with ⟨_ | _, _⟩ <;> eq_refl
  · -- one pass through the generated loop body: evaluate the child `c` (induction hypothesis), stop on its error, else append
    rintro ⟨c, hc⟩ acc k s
    simp only [IH c hc, rs_exec]
    rcases Spec.evalG Operator.eval c s with ⟨_ | _, _⟩ <;> eq_refl

theorem eval_with_context_mut_evalG (n : Node) (s : St) :
    Gen.Node.eval_with_context_mut n s = Spec.evalG Operator.evalMut n s := by
  induction n using Rs.node_ind generalizing s with | _ op cs IH
  rw [Gen.Node.eval_with_context_mut.eq_1, Spec.evalG, ← seqList_evalG]
  simp only [fn_Node_children_agree, fn_Node_operator_agree, Rs.Vec.new_def]
  rw [Rs.M.run_forIn_push_bind (Spec.evalG Operator.evalMut)]
  · -- after the loop: a child failed, or the operator is applied to the values
    simp only [List.attach_map_subtype_val, List.nil_append, fn_Operator_eval_mut_eq, rs_exec]
    rcases Rs.seqList _ cs s with ⟨_ | _, _⟩ <;> eq_refl
  · -- one pass through the generated loop body: evaluate the child `c` (induction hypothesis), stop on its error, else append
    rintro ⟨c, hc⟩ acc k s
    simp only [IH c hc, rs_exec]
    rcases Spec.evalG Operator.evalMut c s with ⟨_ | _, _⟩ <;> eq_refl

theorem fn_Node_eval_with_context_agree (n : Node) (s : St) :
    Gen.Node.eval_with_context n s = Node.evalRO n s :=
  (eval_with_context_evalG n s).trans (Spec.evalRO_eq_evalG n s).symm

theorem fn_Node_eval_with_context_mut_agree (n : Node) (s : St) :
    Gen.Node.eval_with_context_mut n s = Node.evalMut n s :=
  (eval_with_context_mut_evalG n s).trans (Spec.evalMut_eq_evalG n s).symm

/-! ### the typed and the context-free tree-level entry points (`Model/Interface.lean`: `runTree`)

A Rust entry point of kind `k` returns the payload (`String`, `i64`, `f64`, `bool`, `TupleType`, `()`);
the Model represents a typed result by the `Value` of that variant: the agreement is stated through
that embedding (`Except.map Value.string` …; `eval_number*` embeds with `Value.float`). The context-free
forms build `&mut HashMapContext::new()` in place: result only, the caller's state is untouched
(`Mode.fresh`). -/


-- a direct script for any one typed tree-level entry point; the theorems below go through `typed_run`
/-- unfold the wrapper, execute it, then split on the evaluator's answer and on the value variant -/
macro "typed_tree" ev:term : tactic => `(tactic| (
  simp only [Gen.Node.eval_string_with_context, Gen.Node.eval_int_with_context, Gen.Node.eval_float_with_context, Gen.Node.eval_number_with_context, Gen.Node.eval_boolean_with_context, Gen.Node.eval_tuple_with_context, Gen.Node.eval_empty_with_context, Gen.Node.eval_string_with_context_mut, Gen.Node.eval_int_with_context_mut, Gen.Node.eval_float_with_context_mut, Gen.Node.eval_number_with_context_mut, Gen.Node.eval_boolean_with_context_mut, Gen.Node.eval_tuple_with_context_mut, Gen.Node.eval_empty_with_context_mut, Gen.Node.eval_string, Gen.Node.eval_int, Gen.Node.eval_float, Gen.Node.eval_number, Gen.Node.eval_boolean, Gen.Node.eval_tuple, Gen.Node.eval_empty, Gen.Node.eval,
    Rs.call_fresh, Rs.M.run_call_bind, Rs.M.run_pure, Rs.M.run_call, Rs.M.run_try_ok, Rs.M.run_try_error, Rs.M.run_ret, Rs.M.run_pure_bind,
    fn_Node_eval_with_context_agree, fn_Node_eval_with_context_mut_agree, runTree, runTreeUntyped,
    fn_HashMapContext_new_agree, St.fresh]
  generalize $ev _ _ = r
  rcases r with ⟨_ | v, s'⟩
  · first | rfl | simp [Kind.project, Except.map]
  · cases v <;> first | rfl | simp [Kind.project, Except.map]))

attribute [rs_agree] fn_Node_eval_with_context_agree fn_Node_eval_with_context_mut_agree

/-- what a typed wrapper does with the evaluator's answer, on every answer and every value variant -/
macro "project_cases" : tactic => `(tactic| (rintro (_ | v) s; rfl; cases v <;> eq_refl))

/-- a typed entry point calls its untyped evaluator `f` (which agrees with `R`); what it then does with the answer (`F`) leaves
the state alone and, embedded into `Value`, is the Model's `k.project` -/
theorem typed_run {α : Type} {k : Kind} {emb : α → Value} {F : Res Value → Rs.M (Res α) (Res α)} {f R : St → Res Value × St}
    (hf : ∀ s, f s = R s) (s : St)
    (hF : ∀ r s, Prod.map (Except.map emb) id (Rs.M.run (F r) s) = (k.project r, s) := by project_cases) :
    Prod.map (Except.map emb) id (Rs.M.run (Rs.call f >>= F) s) = (k.project (R s).1, (R s).2) := by
  rw [Rs.M.run_call_bind, hF, hf]

/-- a context-free entry point runs its `_mut` sibling `g` on a fresh `HashMapContext` and keeps the result only
(`R`: the Model's `_mut` entry point from `St.fresh`; `runTree k .fresh n s` unfolds to `((runTree k .mut_ n St.fresh).1, s)`) -/
theorem fresh_run {α : Type} {emb : α → Value} {g : St → Res α × St} {R : Res Value × St} {s : St}
    (h : Prod.map (Except.map emb) id (g St.fresh) = R) :
    ((Rs.call_fresh Gen.HashMapContext.new g).map emb, s) = (R.1, s) := by
  rw [← h]
  rfl

theorem fn_Node_eval_agree (n : Node) (s : St) : (Gen.Node.eval n, s) = runTreeUntyped .fresh n s := by
  simp only [Gen.Node.eval, Rs.call_fresh, fn_Node_eval_with_context_mut_agree, runTreeUntyped, fn_HashMapContext_new_agree, St.fresh]

theorem fn_Node_eval_string_with_context_agree (n : Node) (s : St) :
    Prod.map (Except.map Value.string) id (Gen.Node.eval_string_with_context n s) = runTree .string .ro n s :=
  typed_run (fn_Node_eval_with_context_agree n) s

theorem fn_Node_eval_int_with_context_agree (n : Node) (s : St) :
    Prod.map (Except.map Value.int) id (Gen.Node.eval_int_with_context n s) = runTree .int .ro n s :=
  typed_run (fn_Node_eval_with_context_agree n) s

theorem fn_Node_eval_float_with_context_agree (n : Node) (s : St) :
    Prod.map (Except.map Value.float) id (Gen.Node.eval_float_with_context n s) = runTree .float .ro n s :=
  typed_run (fn_Node_eval_with_context_agree n) s

theorem fn_Node_eval_number_with_context_agree (n : Node) (s : St) :
    Prod.map (Except.map Value.float) id (Gen.Node.eval_number_with_context n s) = runTree .number .ro n s :=
  typed_run (fn_Node_eval_with_context_agree n) s

theorem fn_Node_eval_boolean_with_context_agree (n : Node) (s : St) :
    Prod.map (Except.map Value.boolean) id (Gen.Node.eval_boolean_with_context n s) = runTree .boolean .ro n s :=
  typed_run (fn_Node_eval_with_context_agree n) s

theorem fn_Node_eval_tuple_with_context_agree (n : Node) (s : St) :
    Prod.map (Except.map Value.tuple) id (Gen.Node.eval_tuple_with_context n s) = runTree .tuple .ro n s :=
  typed_run (fn_Node_eval_with_context_agree n) s

theorem fn_Node_eval_empty_with_context_agree (n : Node) (s : St) :
    Prod.map (Except.map (fun _ => Value.empty)) id (Gen.Node.eval_empty_with_context n s) = runTree .empty .ro n s :=
  typed_run (fn_Node_eval_with_context_agree n) s

theorem fn_Node_eval_string_with_context_mut_agree (n : Node) (s : St) :
    Prod.map (Except.map Value.string) id (Gen.Node.eval_string_with_context_mut n s) = runTree .string .mut_ n s :=
  typed_run (fn_Node_eval_with_context_mut_agree n) s

theorem fn_Node_eval_int_with_context_mut_agree (n : Node) (s : St) :
    Prod.map (Except.map Value.int) id (Gen.Node.eval_int_with_context_mut n s) = runTree .int .mut_ n s :=
  typed_run (fn_Node_eval_with_context_mut_agree n) s

theorem fn_Node_eval_float_with_context_mut_agree (n : Node) (s : St) :
    Prod.map (Except.map Value.float) id (Gen.Node.eval_float_with_context_mut n s) = runTree .float .mut_ n s :=
  typed_run (fn_Node_eval_with_context_mut_agree n) s

theorem fn_Node_eval_number_with_context_mut_agree (n : Node) (s : St) :
    Prod.map (Except.map Value.float) id (Gen.Node.eval_number_with_context_mut n s) = runTree .number .mut_ n s :=
  typed_run (fn_Node_eval_with_context_mut_agree n) s

theorem fn_Node_eval_boolean_with_context_mut_agree (n : Node) (s : St) :
    Prod.map (Except.map Value.boolean) id (Gen.Node.eval_boolean_with_context_mut n s) = runTree .boolean .mut_ n s :=
  typed_run (fn_Node_eval_with_context_mut_agree n) s

theorem fn_Node_eval_tuple_with_context_mut_agree (n : Node) (s : St) :
    Prod.map (Except.map Value.tuple) id (Gen.Node.eval_tuple_with_context_mut n s) = runTree .tuple .mut_ n s :=
  typed_run (fn_Node_eval_with_context_mut_agree n) s

theorem fn_Node_eval_empty_with_context_mut_agree (n : Node) (s : St) :
    Prod.map (Except.map (fun _ => Value.empty)) id (Gen.Node.eval_empty_with_context_mut n s) = runTree .empty .mut_ n s :=
  typed_run (fn_Node_eval_with_context_mut_agree n) s

theorem fn_Node_eval_string_agree (n : Node) (s : St) :
    ((Gen.Node.eval_string n).map Value.string, s) = runTree .string .fresh n s :=
  fresh_run (fn_Node_eval_string_with_context_mut_agree n _)

theorem fn_Node_eval_int_agree (n : Node) (s : St) :
    ((Gen.Node.eval_int n).map Value.int, s) = runTree .int .fresh n s :=
  fresh_run (fn_Node_eval_int_with_context_mut_agree n _)

theorem fn_Node_eval_float_agree (n : Node) (s : St) :
    ((Gen.Node.eval_float n).map Value.float, s) = runTree .float .fresh n s :=
  fresh_run (fn_Node_eval_float_with_context_mut_agree n _)

theorem fn_Node_eval_number_agree (n : Node) (s : St) :
    ((Gen.Node.eval_number n).map Value.float, s) = runTree .number .fresh n s :=
  fresh_run (fn_Node_eval_number_with_context_mut_agree n _)

theorem fn_Node_eval_boolean_agree (n : Node) (s : St) :
    ((Gen.Node.eval_boolean n).map Value.boolean, s) = runTree .boolean .fresh n s :=
  fresh_run (fn_Node_eval_boolean_with_context_mut_agree n _)

theorem fn_Node_eval_tuple_agree (n : Node) (s : St) :
    ((Gen.Node.eval_tuple n).map Value.tuple, s) = runTree .tuple .fresh n s :=
  fresh_run (fn_Node_eval_tuple_with_context_mut_agree n _)

theorem fn_Node_eval_empty_agree (n : Node) (s : St) :
    ((Gen.Node.eval_empty n).map (fun _ => Value.empty), s) = runTree .empty .fresh n s :=
  fresh_run (fn_Node_eval_empty_with_context_mut_agree n _)

end Evalexpr.AgreeFn

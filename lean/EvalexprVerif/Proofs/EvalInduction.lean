/-
Proofs/EvalInduction.lean — the two tree evaluators of Model/Eval.lean (`Node.evalMut`, `Node.evalRO`)
differ only in the function applied at a node. `evalG ap` is that walk for an arbitrary operator
application `ap`; what it computes is the least relation closed under the six big-step rules of
Spec/BigStep.lean read with `ap` for `Operator.evalMut` (`evalG_ind`). A statement about evaluation
that needs an induction over the tree is proved as an instance of `evalG_ind`, for every `ap` that
has the property at a single node where the argument allows it, and transferred with
`evalMut_eq_evalG` / `evalRO_eq_evalG`.
-/
import EvalexprVerif.Model.Eval

namespace Evalexpr.Spec
open Evalexpr

mutual
def evalG (ap : Operator → List Value → St → Res Value × St) : Node → St → Res Value × St
  | ⟨op, cs⟩, s =>
    match evalGList ap cs s with
    | (.error e, s) => (.error e, s)
    | (.ok args, s) => ap op args s
def evalGList (ap : Operator → List Value → St → Res Value × St) :
    List Node → St → Res (List Value) × St
  | [], s => (.ok [], s)
  | c :: cs, s =>
    match evalG ap c s with
    | (.error e, s) => (.error e, s)
    | (.ok v, s) =>
      match evalGList ap cs s with
      | (.error e, s) => (.error e, s)
      | (.ok vs, s) => (.ok (v :: vs), s)
end

variable (ap : Operator → List Value → St → Res Value × St)

/-- `P n s p`: evaluating `n` from `s` may yield `p` (result and final state); `PL` likewise for a
list of children. The premises are the constructors of `Spec.Eval` and `Spec.EvalList`, in their
order. -/
theorem evalG_ind {P : Node → St → Res Value × St → Prop}
    {PL : List Node → St → Res (List Value) × St → Prop}
    (apply : ∀ op cs s args s', PL cs s (.ok args, s') → P ⟨op, cs⟩ s (ap op args s'))
    (childError : ∀ op cs s e s', PL cs s (.error e, s') → P ⟨op, cs⟩ s (.error e, s'))
    (nil : ∀ s, PL [] s (.ok [], s))
    (consError : ∀ c cs s e s', P c s (.error e, s') → PL (c :: cs) s (.error e, s'))
    (consOk : ∀ c cs s s₁ s₂ v vs, P c s (.ok v, s₁) → PL cs s₁ (.ok vs, s₂) →
      PL (c :: cs) s (.ok (v :: vs), s₂))
    (consOkError : ∀ c cs s s₁ s₂ v e, P c s (.ok v, s₁) → PL cs s₁ (.error e, s₂) →
      PL (c :: cs) s (.error e, s₂)) :
    (∀ n s, P n s (evalG ap n s)) ∧ ∀ cs s, PL cs s (evalGList ap cs s) := by
  refine evalG.mutual_induct ap (fun n s => P n s (evalG ap n s))
    (fun cs s => PL cs s (evalGList ap cs s)) ?childError ?apply ?nil ?consError ?consOkError ?consOk
  case childError =>
    intro op cs s e s' h ih
    rw [evalG, h]
    exact childError _ _ _ _ _ (h ▸ ih)
  case apply =>
    intro op cs s args s' h ih
    rw [evalG, h]
    exact apply _ _ _ _ _ (h ▸ ih)
  case nil =>
    intro s
    rw [evalGList]
    exact nil s
  case consError =>
    intro c cs s e s' h ih
    rw [evalGList, h]
    exact consError _ _ _ _ _ (h ▸ ih)
  case consOkError =>
    intro c cs s v s₁ h e s₂ h2 ih ih2
    rw [evalGList, h]
    simp only [h2]
    exact consOkError _ _ _ _ _ _ _ (h ▸ ih) (h2 ▸ ih2)
  case consOk =>
    intro c cs s v s₁ h vs s₂ h2 ih ih2
    rw [evalGList, h]
    simp only [h2]
    exact consOk _ _ _ _ _ _ _ (h ▸ ih) (h2 ▸ ih2)

theorem evalG_rel (R : St → St → Prop) (hrefl : ∀ s, R s s)
    (htrans : ∀ a b c, R a b → R b c → R a c) (hop : ∀ op args s, R s (ap op args s).2) :
    (∀ n s, R s (evalG ap n s).2) ∧ ∀ cs s, R s (evalGList ap cs s).2 :=
  evalG_ind ap (P := fun _ s p => R s p.2) (PL := fun _ s p => R s p.2)
    (apply := fun op _ _ args s' h => htrans _ _ _ h (hop op args s'))
    (childError := fun _ _ _ _ _ h => h) (nil := hrefl) (consError := fun _ _ _ _ _ h => h)
    (consOk := fun _ _ _ _ _ _ _ => htrans _ _ _) (consOkError := fun _ _ _ _ _ _ _ => htrans _ _ _)

/- `Node.evalMut` and `Node.evalRO` are `evalG` at `Operator.evalMut` and `Operator.eval` by
definition: the structural recursions are the same term up to the function applied at a node. -/
theorem evalMut_eq_evalG (n : Node) (s : St) : n.evalMut s = evalG Operator.evalMut n s := by
  delta Node.evalMut evalG; rfl
theorem evalMutList_eq_evalGList (cs : List Node) (s : St) :
    evalMutList cs s = evalGList Operator.evalMut cs s := by
  delta evalMutList evalGList; rfl
theorem evalRO_eq_evalG (n : Node) (s : St) : n.evalRO s = evalG Operator.eval n s := by
  delta Node.evalRO evalG; rfl
theorem evalROList_eq_evalGList (cs : List Node) (s : St) :
    evalROList cs s = evalGList Operator.eval cs s := by
  delta evalROList evalGList; rfl

end Evalexpr.Spec

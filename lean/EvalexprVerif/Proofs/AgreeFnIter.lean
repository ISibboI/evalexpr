/-
Proofs/AgreeFnIter.lean — `NodeIter::next` and `OperatorIterMut::next` of src/tree/iter.rs as translated on this run
(`Generated/FnIter.lean`) against the Model's `nodeIterNext` / `operatorIterMutNext` (`Model/Iter.lean`).

The Rust functions are a `loop` over an explicit stack (a `Vec`, top = last element) of slice iterators; the generated
functions take their fuel as a parameter and end with `.error (.panic "… out of fuel")` when it runs out. The Model's
functions recurse on the stack (a list, head = top). The theorems: with more fuel than the stack has entries, the
generated function finishes, with the Model's answer on the reversed stack and the reversed new stack (the empty stack
when the iterator is exhausted). So the `loop` terminates within `stack.len() + 1` iterations — proved, not assumed.
-/
import EvalexprVerif.Generated.FnIter
import EvalexprVerif.Translate.Lemmas
import EvalexprVerif.Model.Iter

namespace Evalexpr.AgreeFn
open Evalexpr

/-- `NodeIter::new` / `OperatorIterMut::new`: the initial stack of `Node.iter` / `Node.iterOperatorsMut` (`[n.children]`) -/
theorem fn_NodeIter_new_agree (n : Node) : Gen.NodeIter.new n = ⟨[n.children]⟩ := rfl
theorem fn_OperatorIterMut_new_agree (n : Node) : Gen.OperatorIterMut.new n = ⟨[n.children]⟩ := rfl

theorem fn_NodeIter_next_agree (rs : List (List Node)) (fuel : Nat) (h : rs.length < fuel) :
    Gen.NodeIter.next fuel ⟨rs.reverse⟩ =
      .ok (match nodeIterNext rs with
        | none => (none, ⟨[]⟩)
        | some (n, rs') => (some n, ⟨rs'.reverse⟩)) := by
  simp only [Gen.NodeIter.next, Rs.Flow.run_loop_bind]
  induction rs generalizing fuel with
  | nil =>
    -- the empty stack: exhausted, in one pass of the loop
    cases fuel with
    | zero => cases h
    | succ fuel => rfl
  | cons top rest ih =>
    cases fuel with
    | zero => cases h
    | succ fuel =>
      cases top with
      | nil =>
        -- the iterator on top is exhausted: it is popped and the loop goes on with the rest of the stack
        simp only [Rs.loopRes, nodeIterNext, List.reverse_cons, rs_exec]
        exact ih fuel (Nat.lt_of_succ_lt_succ h)
      | cons n ns =>
        -- the iterator on top yields `n`: its rest is written back, the children of `n` are pushed, `n` is returned
        simp only [Rs.loopRes, nodeIterNext, List.reverse_cons, List.append_assoc, List.cons_append, List.nil_append, rs_exec]

theorem fn_OperatorIterMut_next_agree (rs : List (List Node)) (fuel : Nat) (h : rs.length < fuel) :
    Gen.OperatorIterMut.next fuel ⟨rs.reverse⟩ =
      .ok (match operatorIterMutNext rs with
        | none => (none, ⟨[]⟩)
        | some (o, rs') => (some o, ⟨rs'.reverse⟩)) := by
  simp only [Gen.OperatorIterMut.next, Rs.Flow.run_loop_bind]
  induction rs generalizing fuel with
  | nil =>
    -- the empty stack: exhausted, in one pass of the loop
    cases fuel with
    | zero => cases h
    | succ fuel => rfl
  | cons top rest ih =>
    cases fuel with
    | zero => cases h
    | succ fuel =>
      cases top with
      | nil =>
        -- the iterator on top is exhausted: it is popped and the loop goes on with the rest of the stack
        simp only [Rs.loopRes, operatorIterMutNext, List.reverse_cons, rs_exec]
        exact ih fuel (Nat.lt_of_succ_lt_succ h)
      | cons n ns =>
        -- the iterator on top yields `n`: its rest is written back, the children of `n` are pushed, the operator of `n` is returned
        simp only [Rs.loopRes, operatorIterMutNext, List.reverse_cons, List.append_assoc, List.cons_append, List.nil_append, rs_exec]

end Evalexpr.AgreeFn

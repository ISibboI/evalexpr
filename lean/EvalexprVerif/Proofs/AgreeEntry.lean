/- Proofs/AgreeEntry.lean — extracted tables equal the expected ones (see Spec/Tables.lean). -/
import EvalexprVerif.Generated.EntryPoints
import EvalexprVerif.Spec.Tables

namespace Evalexpr.Agree
open Evalexpr.Spec

/-- `Tables.entryPoints` is generated from one rule (`levelRows`); unfolding the rule and appending its string pieces
gives the literal table -/
theorem entryPoints_agree : Generated.entryPoints = Tables.entryPoints := by
  simp only [Tables.entryPoints, Tables.levelRows, Tables.kinds, List.map, List.flatten, List.append_eq,
    List.cons_append, List.nil_append, List.append_nil, String.reduceAppend]
  rfl
theorem buildOperatorTree_agree : Generated.buildOperatorTreeRecognised = true := rfl

end Evalexpr.Agree

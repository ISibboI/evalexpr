/-
`tokens_to_operator_tree` of src/tree/mod.rs as translated on this run (`Generated/FnTreeBuild.lean`) returns
`some (tokensToOperatorTree ts)` for every token sequence: it terminates (`none` is divergence) and computes the Model's tree.
One pass through the translated loop body simulates the Model's `treeStep` on related states (`Rs.run_forPeek_bind_spec`): the
first statement is `tokenToNode`, the rest `pushSequence` / `pushNode`, split on the Model's conditions in the Model's order.
The two `unreachable!()` of the body are panics whose site string differs from the Model's `unreachableSeq`, so the simulation is
up to the panic site (`Rs.ErrSim`); `Spec.build_noPanic` (the Model never panics here) turns the result into an equality.
-/
import EvalexprVerif.Proofs.AgreeFnTreeBuild
import EvalexprVerif.Proofs.NoPanicTree

namespace Evalexpr.AgreeFn
open Evalexpr

open TreeBuilder
attribute [local simp] fn_Token_is_leftsided_value_agree fn_Token_is_rightsided_value_agree fn_Token_is_assignment_agree

/-- the Model's state of the token loop: (root stack, last_token_is_rightsided_value, last_token_is_identifier) -/
abbrev LoopSt := List Node × Bool × Bool

def treeStepSt (token : Token) (next : Option Token) (t : LoopSt) : Res LoopSt :=
  match treeStep t.1 t.2.1 t.2.2 token next with
  | .ok stack => .ok (stack, token.isRightsidedValue, token.isIdentifier)
  | .error e => .error e

/-- the Model's `tokens_to_operator_tree` from a state of the token loop (`tokensToOperatorTree ts` is `treeFrom ts` of the
initial state, by `rfl`) -/
def treeFrom (ts : List Token) (t : LoopSt) : Res Node :=
  match treeLoop ts t.1 t.2.1 t.2.2 with
  | .error e => .error e
  | .ok stack =>
    match collapseAllSequences stack with
    | .error e => .error e
    | .ok stack =>
      if stack.length > 1 then .error .unmatchedLBrace
      else match stack with
        | root :: _ => .ok root
        | [] => .error .unmatchedRBrace

theorem treeFrom_cons (a : Token) (l : List Token) (t : LoopSt) :
    treeFrom (a :: l) t = treeStepSt a l.head? t >>= treeFrom l := by
  simp only [treeFrom, treeLoop, treeStepSt]
  cases treeStep t.1 t.2.1 t.2.2 a l.head? <;> eq_refl

/-- the Model's `tokenToNode` as the first statement of the loop body: the node (if any) and the `Vec` stack, or the early return -/
def tokenToNodeL {σ : Type} (r : Res (Option Node × List Node)) : Rs.L (Res Node) σ (Option Node × List Node) :=
  match r with
  | .ok (n, st) => pure (n, st.reverse)
  | .error e => Rs.ret (.error e)

/-- close a `StepSim` goal whose two sides are determined (`rfl`: the identifier flag is a `match` on the token on both sides) -/
macro "sim_close" : tactic =>
  `(tactic| (simp [Rs.ErrSim, unreachableSeq, Err.isPanic, Except.map, Operator.isRoot, Token.isIdentifier] <;> eq_refl))

set_option hygiene false in
/-- The translated loop keeps (root_stack, last_token_is_rightsided_value, last_token_is_identifier) in a tuple whose order is the
declaration order of the Rust locals, with the stack reversed (`Vec`: last element = top). `loop_state f` starts the simulation
with the arrangement `f` of the Model's state and goes through the first statement of the body, the only one that looks at both
flags: two operands juxtaposed is an early return of the Model's error (a wrong position of the stack is a type error, found at
once; with swapped flags the statement is not the Model's test). It leaves the rest of the pass, and what follows the loop. -/
macro "loop_state" f:term : tactic => `(tactic| (
  refine Rs.run_forPeek_bind_spec (fun s t => s = $f t) treeStepSt treeFrom treeFrom_cons (t := ([Node.rootNode], false, false))
    rfl ?pass ?afterLoop
  case' pass =>
    rintro token nxt s ⟨stack, lr, li⟩ rfl
    unfold treeStepSt treeStep
    refine Rs.StepSim.bind_left (x' := if juxtaposed lr li token then
      Rs.ret (.error (if token.isLBrace then .missingOperatorOutsideOfBrace else .appendedToLeafNode)) else pure ()) ?guard ?rest
    case guard => simp [juxtaposed]
    case' rest =>
      cases juxtaposed lr li token
      -- two operands juxtaposed: both return the same error
      case true => exact ⟨_, rfl, .inl rfl⟩))

theorem tokens_loop_sim (ts : List Token) :
    ∃ r, Gen.tokens_to_operator_tree ts = some r ∧ Rs.PanicEq r (tokensToOperatorTree ts) := by
  unfold Gen.tokens_to_operator_tree
  first
  | loop_state (fun t : LoopSt => (t.1.reverse, t.2.1, t.2.2))
  | loop_state (fun t : LoopSt => (t.1.reverse, t.2.2, t.2.1))
  | loop_state (fun t : LoopSt => (t.2.1, t.1.reverse, t.2.2))
  | loop_state (fun t : LoopSt => (t.2.2, t.1.reverse, t.2.1))
  | loop_state (fun t : LoopSt => (t.2.1, t.2.2, t.1.reverse))
  | loop_state (fun t : LoopSt => (t.2.2, t.2.1, t.1.reverse))
  case pass =>
    refine Rs.StepSim.bind_left (x' := tokenToNodeL (tokenToNode stack lr token nxt)) ?tokenToNode ?push
    case tokenToNode =>
      -- the statement `let node = match token { … }`; an operator or literal token: the same node on both sides
      cases token <;> try rfl
      case minus => cases lr <;> eq_refl
      case lBrace => simp [tokenToNode, tokenToNodeL]
      case identifier id =>
        -- a variable to read, to write (an assignment follows) or a function (an operand follows)
        rcases nxt with _ | next <;>
          simp [tokenToNode, tokenToNodeL, fn_Operator_variable_identifier_read_agree,
            fn_Operator_variable_identifier_write_agree, fn_Operator_function_identifier_agree]
        rs_split_ifs <;> simp
      case rBrace =>
        obtain ⟨g, hg, ho⟩ := fn_collapse_all_sequences_agree stack
        obtain ⟨junk, rfl⟩ := ho.eq
        simp [tokenToNode, tokenToNodeL]
        -- the collapse fails / leaves nothing / leaves the closed brace's root on top; before that, the test `len <= 1`
        rcases hcs : collapseAllSequences stack with e | (_ | ⟨top, st'⟩) <;> rs_split_ifs <;> simp [hg, hcs, Except.map]
    case push =>
      -- the rest of the body, by what the first statement returned
      generalize tokenToNode stack lr token nxt = r
      rcases r with e | ⟨_ | node, st⟩
      · -- an error: returned
        exact ⟨_, rfl, .inl rfl⟩
      · -- no node (`(`): only the flags change
        refine ⟨_, rfl, ?_⟩
        simp [Token.isIdentifier] <;> eq_refl
      · rcases st with _ | ⟨root, rest⟩
        · -- a node but an empty stack: `UnmatchedRBrace`
          exact ⟨_, rfl, .inl rfl⟩
        · simp [tokenToNodeL]
          rs_split_if
          · -- a sequence operator (`,` / `;`): `pushSequence`, condition by condition
            simp [pushSequence, Operator.isRoot]
            rs_split_ifs
            · -- the same kind of sequence is open: a new, empty element
              sim_close
            · -- the top is a root node: it becomes the first element of a new sequence
              sim_close
            · -- the top binds weaker: its last child becomes the first element (`unreachable!()` without one)
              cases root.children.getLast? <;> sim_close
            · -- otherwise collapse down to the sequence's precedence; then join an open sequence of its kind, or start one
              obtain ⟨g, hg, ho⟩ := fn_collapse_root_stack_to_agree rest root node
              obtain ⟨junk, rfl⟩ := ho.eq
              rcases hcr : collapseRootStackTo rest root node with e | ⟨root', _ | ⟨open_, st'⟩⟩ <;>
                simp [hg, hcr] <;> rs_split_ifs <;> sim_close
          · -- any other operator / operand: `pushNode`
            simp only [pushNode]
            rs_split_if
            · -- the top is an open sequence: into its last element (`unreachable!()` without one)
              cases hl : root.children.getLast? with
              | none => sim_close
              | some last =>
                obtain ⟨g, hg, hm⟩ := fn_Node_insert_back_prioritized_agree last node true
                rcases g with ⟨_ | _, g2⟩ <;> simp [hg, hm] <;> sim_close
            · -- otherwise into the top itself
              obtain ⟨g, hg, hm⟩ := fn_Node_insert_back_prioritized_agree root node true
              rcases g with ⟨_ | _, g2⟩ <;> simp [hg, hm] <;> sim_close
  case afterLoop =>
    rintro s ⟨stack, lr, li⟩ rfl
    obtain ⟨g, hg, ho⟩ := fn_collapse_all_sequences_agree stack
    obtain ⟨junk, rfl⟩ := ho.eq
    -- the collapse fails / leaves nothing (`UnmatchedRBrace`) / leaves the tree / leaves more (`UnmatchedLBrace`)
    rcases hc : collapseAllSequences stack with e | (_ | ⟨a, _ | ⟨b, rest⟩⟩) <;>
      simp [hg, treeFrom, treeLoop, hc, Rs.PanicEq, Except.map]

theorem fn_tokens_to_operator_tree_agree (ts : List Token) :
    Gen.tokens_to_operator_tree ts = some (tokensToOperatorTree ts) := by
  obtain ⟨r, hr, hp⟩ := tokens_loop_sim ts
  rw [hr, hp.eq_of_noPanic (Spec.build_noPanic ts)]

theorem fn_tokens_to_operator_tree_terminates (ts : List Token) : (Gen.tokens_to_operator_tree ts).isSome = true := by
  rw [fn_tokens_to_operator_tree_agree]; rfl
theorem fn_tokens_to_operator_tree_noPanic (ts : List Token) (r : Res Node)
    (h : Gen.tokens_to_operator_tree ts = some r) : r.isPanic = false := by
  rw [fn_tokens_to_operator_tree_agree] at h
  cases h
  exact Spec.build_noPanic ts

end Evalexpr.AgreeFn

/-
Proofs/ParseExpr.lean — property C02: the tree builder parses the canonical rendering of an
expression AST to the operator tree the documented precedence table promises.

Within one parenthesis level the tree under the level's `RootNode` is a right spine
(`ParseSpine.lean`). `Opd` is the grammar of operands written with enough parentheses, "enough"
said with the binding powers behind the tree builder's test `descends`; `Opd.fills` is the one induction: reading such an
operand in the open slot of a spine — the spine being the current item of a level of the root
stack (`Lvl`, `TreeLevels.lean`) — fills the slot with the operand's tree. That `render` writes
enough parentheses (`render_opd`), and so does the permissive `renderL` of `Spec/AstLoose.lean`
(`renderL_opd`), is arithmetic on binding powers (`ParseTops.lean`).
-/
import EvalexprVerif.Proofs.TreeLevels
import EvalexprVerif.Proofs.ParseSpine
import EvalexprVerif.Proofs.ParseTops

namespace Evalexpr.Spec
open Evalexpr

/-- every frame is complete but for its last child, and is an operator (precedence below 200) -/
def FOK (F : List Frame) : Prop := ∀ f ∈ F, f.full ∧ f.op.precedence < 200

/-- every operator arriving at top level while `render e` is read descends through `F` -/
def Adm (F : List Frame) (e : Expr) : Prop :=
  ∀ f ∈ F, ∀ o ∈ tops e, descends f.op o false = true

/-- the token after an operand is neither an assignment nor the start of another operand -/
def okNext (suf : List Token) : Prop :=
  ∀ t, suf.head? = some t → t.isAssignment = false ∧ t.isLeftsidedValue = false

theorem okNext_cons {tok : Token} (h1 : tok.isAssignment = false)
    (h2 : tok.isLeftsidedValue = false) (ts : List Token) : okNext (tok :: ts) := by
  intro t ht; cases ht; exact ⟨h1, h2⟩

theorem FOK.nil : FOK [] := fun _ h => nomatch h

theorem FOK.full {F : List Frame} (h : FOK F) : ∀ f ∈ R :: F, f.full := by
  intro f hf
  rcases List.mem_cons.mp hf with rfl | hf
  · exact rfl
  · exact (h f hf).1

theorem FOK.snoc {F : List Frame} (h : FOK F) (g : Frame) (hg : g.full)
    (hp : g.op.precedence < 200) : FOK (F ++ [g]) := by
  intro f hf
  rcases List.mem_append.mp hf with hf | hf
  · exact h f hf
  · rw [List.mem_singleton.mp hf]; exact ⟨hg, hp⟩

/-- the children of a parenthesis node with the open slot of the spine `F` below it -/
def openKids : List Frame → List Node
  | [] => []
  | g :: gs => [openS g gs]

theorem openS_R (F : List Frame) : openS R F = ⟨.rootNode, openKids F⟩ := by
  cases F <;> rfl

theorem openKids_append (F : List Frame) (g : Frame) :
    openKids (F ++ [g]) = [plug F ⟨g.op, g.left⟩] := by
  cases F with
  | nil => rfl
  | cons f F => simp only [List.cons_append, openKids, openS_append]

theorem ins_atom {F : List Frame} (hF : FOK F) (node : Node) (hp : node.op.precedence = 200) :
    Node.insertBackPrioritized ⟨.rootNode, openKids F⟩ node true
      = .ok ⟨.rootNode, [plug F node]⟩ := by
  rw [← openS_R]
  exact ins_append R F node true hF.full (by simp [descends]) fun f hf => (descends_iff _ _).2
    (.inr (Nat.lt_of_lt_of_le (rbp_lt (hF f hf).2) (by rw [lbp, hp]; exact Nat.le_add_right _ _)))

theorem ins_unary {F : List Frame} (hF : FOK F) (node : Node) (hu : node.op.isUnary = true) :
    Node.insertBackPrioritized ⟨.rootNode, openKids F⟩ node true
      = .ok ⟨.rootNode, [plug F node]⟩ := by
  rw [← openS_R]
  exact ins_append R F node true hF.full (by simp [descends]) fun _ _ =>
    (descends_iff _ _).2 (.inl hu)

theorem ins_binary {F : List Frame} (hF : FOK F) (t : Node) (op : Operator)
    (hadm : ∀ f ∈ F, descends f.op op false = true)
    (hstop : descends t.op op false = false)
    (hnl : op.isLeaf = false) (hnr : op.isRoot = false) :
    Node.insertBackPrioritized ⟨.rootNode, [plug F t]⟩ (Node.new op) true
      = .ok ⟨.rootNode, openKids (F ++ [⟨op, [t]⟩])⟩ := by
  rw [openKids_append]
  exact ins_rotate R F t (Node.new op) true hF.full (by simp [descends]) hadm hstop hnl hnr

/-- `push_plain` where the insertion is known -/
theorem push_item (c : Ctx) {cs cs' : List Node} {node : Node} (hns : node.op.isSequence = false)
    (hins : Node.insertBackPrioritized ⟨.rootNode, cs⟩ node true = .ok ⟨.rootNode, cs'⟩)
    (rest : List Node) :
    pushAny ((Lvl.mk c cs).toList ++ rest) node = .ok ((Lvl.mk c cs').toList ++ rest) := by
  rw [push_plain ⟨c, cs⟩ rest hns, Lvl.item, hins]; rfl

/-- a token that becomes a node other than a separator, read with `⟨.rootNode, cs⟩` as the item of
a level with the open nodes `c` -/
theorem step_push (c : Ctx) (tok : Token) (ts : List Token) (cs : List Node)
    (rest : List Node) (lr li : Bool) (node : Node) (cs' : List Node)
    (hj : juxtaposed lr li tok = false)
    (ht : tokenToNode ((Lvl.mk c cs).toList ++ rest) lr tok ts.head?
      = .ok (some node, (Lvl.mk c cs).toList ++ rest))
    (hns : node.op.isSequence = false)
    (hins : Node.insertBackPrioritized ⟨.rootNode, cs⟩ node true = .ok ⟨.rootNode, cs'⟩) :
    treeLoop (tok :: ts) ((Lvl.mk c cs).toList ++ rest) lr li
      = treeLoop ts ((Lvl.mk c cs').toList ++ rest) tok.isRightsidedValue tok.isIdentifier := by
  simp [treeLoop, treeStep_eq, hj, ht, push_item c hns hins]

theorem step_lBrace (ts : List Token) (st : List Node) (lr li : Bool)
    (h : lr = false ∨ li = true) :
    treeLoop (.lBrace :: ts) st lr li = treeLoop ts (openS R [] :: st) false false := by
  have hj : juxtaposed lr li .lBrace = false := by
    rcases h with h | h <;> simp [juxtaposed, h, Token.isNot]
  simp [treeLoop, treeStep, hj, tokenToNode, Token.isRightsidedValue, Token.isIdentifier,
    openS, R, Node.rootNode]

theorem rootNode_fits (cs : List Node) (h : cs.length ≤ 1) :
    Node.hasTooManyChildren ⟨.rootNode, cs⟩ = false := by
  simp [Node.hasTooManyChildren, Operator.maxArgumentAmount, Operator.kind,
    OpKind.maxArgumentAmount]
  omega

/-- `)` closing the level `L` above the item `⟨.rootNode, cs⟩` -/
theorem step_rBrace (c : Ctx) (ts : List Token) (L : Lvl)
    (htm : L.collapse.hasTooManyChildren = false) (cs cs' : List Node) (rest : List Node)
    (lr li : Bool)
    (hins : Node.insertBackPrioritized ⟨.rootNode, cs⟩ L.collapse true = .ok ⟨.rootNode, cs'⟩) :
    treeLoop (.rBrace :: ts) (L.toList ++ ((Lvl.mk c cs).toList ++ rest)) lr li
      = treeLoop ts ((Lvl.mk c cs').toList ++ rest) true false := by
  have hj : juxtaposed lr li .rBrace = false := by
    simp [juxtaposed, Token.isNot, Token.isLeftsidedValue]
  have hlen : ¬ (L.toList ++ ((Lvl.mk c cs).toList ++ rest)).length ≤ 1 := by
    have h1 := List.length_pos_iff.2 L.toList_ne
    have h2 := List.length_pos_iff.2 (Lvl.mk c cs).toList_ne
    simp only [List.length_append]; omega
  have hk : tokenToNode (L.toList ++ ((Lvl.mk c cs).toList ++ rest)) lr .rBrace ts.head?
      = .ok (some L.collapse, (Lvl.mk c cs).toList ++ rest) := by
    simp only [tokenToNode, hlen, if_false, collapse_explicit L, htm, Bool.false_eq_true]
  simp [treeLoop, treeStep_eq, hj, hk, Token.isRightsidedValue, Token.isIdentifier,
    push_item c (node := L.collapse) (isSeq_of_kind L.collapse_kind) hins]

/-- after an operand, `lastIdentifier` only matters if another operand follows -/
theorem li_irrelevant (suf : List Token) (st : List Node) (li : Bool) (h : okNext suf) :
    treeLoop suf st true li = treeLoop suf st true false := by
  cases suf with
  | nil => simp [treeLoop]
  | cons t ts =>
    have := (h t rfl).2
    simp [treeLoop, treeStep, juxtaposed, this]

theorem not_juxtaposed {lr li : Bool} {P : Prop} (hs : lr = false ∨ (li = true ∧ P))
    (tok : Token) (hn : tok.isNot = false) : juxtaposed lr li tok = false := by
  rcases hs with h | ⟨h, _⟩ <;> simp [juxtaposed, h, hn]

theorem tokenToNode_identifier (st : List Node) (lr : Bool) (x : Str) (n : Token) :
    tokenToNode st lr (.identifier x) (some n) = .ok (some ⟨
      if n.isAssignment then .varWrite x else if n.isLeftsidedValue then .fn x else .varRead x,
      []⟩, st) := by
  cases h : n.isAssignment <;> cases h' : n.isLeftsidedValue <;> simp [tokenToNode, h, h', Node.new]

theorem binop_token (op : BinOp) (st : List Node) (next : Option Token) :
    tokenToNode st true op.token next = .ok (some (Node.new op.toOperator), st) := by
  cases op <;> rfl

theorem binop_token_facts (op : BinOp) :
    op.token.isNot = false ∧ op.token.isLeftsidedValue = false ∧
    op.token.isRightsidedValue = false ∧ op.token.isAssignment = false := by
  cases op <;> exact ⟨rfl, rfl, rfl, rfl⟩

theorem assignop_token (op : AssignOp) (st : List Node) (lr : Bool) (next : Option Token) :
    tokenToNode st lr op.token next = .ok (some (Node.new op.toOperator), st) := by
  cases op <;> rfl

theorem assignop_token_facts (op : AssignOp) :
    op.token.isNot = false ∧ op.token.isLeftsidedValue = false ∧
    op.token.isRightsidedValue = false ∧ op.token.isAssignment = true := by
  cases op <;> exact ⟨rfl, rfl, rfl, rfl⟩

/-- `Opd a ts t m`: the tokens `ts` are one operand with tree `t`; `m` is the least left binding
power among the binary and assignment operators that arrive at the operand's own parenthesis level
while it is read (400 if there is none); `a`: it may follow a function name directly (literal,
variable, application, parenthesised group). Enough parentheses: an operator holds its right operand
more weakly than anything arriving from it pulls (`rbp _ < m`), a binary operator does not pull
more strongly than what arrives from its left operand, and does not descend into it. -/
inductive Opd : Bool → List Token → Node → Nat → Prop
  | lit (l : Lit) : Opd true [l.token] ⟨.const l.value, []⟩ 400
  | var (x : Str) : Opd true [.identifier x] ⟨.varRead x, []⟩ 400
  | paren {a ts t m} : Opd a ts t m → Opd true (.lBrace :: ts ++ [.rBrace]) ⟨.rootNode, [t]⟩ 400
  | call (f : Str) {a ts t m} : Opd a ts t m → a = true →
      Opd true (.identifier f :: ts) ⟨.fn f, [t]⟩ 400
  | neg {a ts t m} : Opd a ts t m → rbp .neg < m → Opd false (.minus :: ts) ⟨.neg, [t]⟩ m
  | not {a ts t m} : Opd a ts t m → rbp .not < m → Opd false (.not :: ts) ⟨.not, [t]⟩ m
  | bin (op : BinOp) {a₁ ts₁ t₁ m₁ a₂ ts₂ t₂ m₂} : Opd a₁ ts₁ t₁ m₁ → Opd a₂ ts₂ t₂ m₂ →
      descends t₁.op op.toOperator false = false → lbp op.toOperator ≤ m₁ →
      rbp op.toOperator < m₂ →
      Opd false (ts₁ ++ op.token :: ts₂) ⟨op.toOperator, [t₁, t₂]⟩ (lbp op.toOperator)
  | assign (op : AssignOp) (x : Str) {a ts t m} : Opd a ts t m → rbp op.toOperator < m →
      Opd false (.identifier x :: op.token :: ts) ⟨op.toOperator, [⟨.varWrite x, []⟩, t]⟩
        (lbp op.toOperator)

/-- an operand, parenthesised (`b = true`) or bare -/
theorem Opd.operand (b : Bool) {a a' tsT tT mT tsF tF mF} (hT : Opd a' tsT tT mT)
    (hF : b = false → Opd a tsF tF mF) :
    Opd (b || a) (if b then .lBrace :: tsT ++ [.rBrace] else tsF)
      (if b then ⟨.rootNode, [tT]⟩ else tF) (if b then 400 else mF) := by
  cases b with
  | true => exact hT.paren
  | false => exact hF rfl

/-- what may follow a function name starts with an operand token, and no operator arrives from it -/
theorem Opd.head {ts t m} (h : Opd true ts t m) (suf : List Token) :
    m = 400 ∧ ∃ tok, (ts ++ suf).head? = some tok ∧ tok.isLeftsidedValue = true ∧
      tok.isAssignment = false := by
  cases h with
  | lit l => cases l <;> exact ⟨rfl, _, rfl, rfl, rfl⟩
  | var x => exact ⟨rfl, _, rfl, rfl, rfl⟩
  | paren h => exact ⟨rfl, _, rfl, rfl, rfl⟩
  | call f h _ => exact ⟨rfl, _, rfl, rfl, rfl⟩

/-- reading `ts` in the open slot of a spine `F` whose operators hold their slots more weakly than
`m` fills the slot with `t`; the spine is the item of a level, whatever its open sequence nodes
`c` -/
def Fills (a : Bool) (ts : List Token) (t : Node) (m : Nat) : Prop :=
  ∀ (c : Ctx) (F : List Frame) (rest : List Node) (suf : List Token) (lr li : Bool),
    FOK F → (∀ f ∈ F, rbp f.op < m) →
    (lr = false ∨ (li = true ∧ a = true)) → okNext suf →
    treeLoop (ts ++ suf) ((Lvl.mk c (openKids F)).toList ++ rest) lr li
      = treeLoop suf ((Lvl.mk c [plug F t]).toList ++ rest) true false

/-- one token that becomes a leaf -/
theorem fills_atom (tok : Token) (v : Operator) (hv : v.precedence = 200)
    (hseq : v.isSequence = false) (hnot : tok.isNot = false) (hr : tok.isRightsidedValue = true)
    (htok : ∀ st lr suf, okNext suf → tokenToNode st lr tok suf.head? = .ok (some ⟨v, []⟩, st)) :
    Fills true [tok] ⟨v, []⟩ 400 := by
  intro c F rest suf lr li hF _ hs hn
  rw [List.singleton_append, step_push c tok suf (openKids F) rest lr li ⟨v, []⟩
    [plug F ⟨v, []⟩] (not_juxtaposed hs _ hnot) (htok _ _ _ hn) hseq (ins_atom hF _ hv), hr]
  exact li_irrelevant suf _ _ hn

/-- the operand of a frame `g` that has just been opened -/
theorem fills_frame {a ts t m} (ih : Fills a ts t m) (c : Ctx)
    (F : List Frame) (g : Frame) (rest : List Node) (suf : List Token) (lr li : Bool)
    (hF : FOK F) (hg : g.full) (hp : g.op.precedence < 200)
    (hadm : ∀ f ∈ F, rbp f.op < m) (hbelow : rbp g.op < m)
    (hs : lr = false ∨ (li = true ∧ a = true)) (hn : okNext suf) :
    treeLoop (ts ++ suf) ((Lvl.mk c (openKids (F ++ [g]))).toList ++ rest) lr li
      = treeLoop suf ((Lvl.mk c [plug F ⟨g.op, g.left ++ [t]⟩]).toList ++ rest) true false := by
  rw [ih c (F ++ [g]) rest suf lr li (hF.snoc g hg hp)
      (List.forall_mem_append.2 ⟨hadm, List.forall_mem_singleton.2 hbelow⟩) hs hn, plug_append]

/-- a prefix operator (function name, `-`, `!`) and its operand -/
theorem fills_prefix (tok : Token) (op : Operator) {a ts t m} (ih : Fills a ts t m)
    (hu : op.isUnary = true) (hp : op.precedence < 200)
    (hseq : op.isSequence = false) (hmax : op.maxArgumentAmount = some 1)
    (hbelow : rbp op < m)
    (c : Ctx)
    (F : List Frame) (rest : List Node) (suf : List Token) (lr li : Bool)
    (hF : FOK F) (hadm : ∀ f ∈ F, rbp f.op < m)
    (hj : juxtaposed lr li tok = false)
    (htok : tokenToNode ((Lvl.mk c (openKids F)).toList ++ rest) lr tok (ts ++ suf).head?
      = .ok (some ⟨op, []⟩, (Lvl.mk c (openKids F)).toList ++ rest))
    (hs : tok.isRightsidedValue = false ∨ (tok.isIdentifier = true ∧ a = true))
    (hn : okNext suf) :
    treeLoop (tok :: ts ++ suf) ((Lvl.mk c (openKids F)).toList ++ rest) lr li
      = treeLoop suf ((Lvl.mk c [plug F ⟨op, [t]⟩]).toList ++ rest) true false := by
  rw [List.cons_append, step_push c tok _ (openKids F) rest lr li ⟨op, []⟩
    (openKids (F ++ [⟨op, []⟩])) hj htok hseq (by rw [openKids_append]; exact ins_unary hF _ hu)]
  exact fills_frame ih c F ⟨op, []⟩ rest suf _ _ hF hmax hp hadm hbelow hs hn

/-- the second operand of an operator that holds it more weakly than `m`: the frames that let the
operator through hold their slots more weakly still -/
theorem below_of_lbp {F : List Frame} {o : Operator} {m : Nat} (hadm : ∀ f ∈ F, rbp f.op < lbp o)
    (hbelow : rbp o < m) : ∀ f ∈ F, rbp f.op < m :=
  fun f hf => Nat.lt_of_lt_of_le (hadm f hf) (Nat.le_trans (lbp_le o) hbelow)

theorem Opd.fills {a ts t m} (h : Opd a ts t m) : Fills a ts t m := by
  induction h with
  | lit l =>
    exact fills_atom l.token (.const l.value) rfl rfl (by cases l <;> rfl) (by cases l <;> rfl)
      (by intro st lr suf _; cases l <;> rfl)
  | var x =>
    refine fills_atom (.identifier x) (.varRead x) rfl rfl rfl rfl ?_
    intro st lr suf hn
    cases hh : suf.head? with
    | none => rfl
    | some n => rw [tokenToNode_identifier, (hn n hh).1, (hn n hh).2]; rfl
  | @paren a ts t m _ ih =>
    -- `(` opens a level, the operand fills its root, `)` inserts the level like an atom
    intro c F rest suf lr li hF _ hs hn
    simp only [List.cons_append, List.append_assoc, List.nil_append]
    rw [step_lBrace _ _ _ _ (by rcases hs with h | ⟨h, _⟩ <;> simp [h])]
    refine (ih ⟨none, none⟩ [] ((Lvl.mk c (openKids F)).toList ++ rest) (.rBrace :: suf) false false
      .nil (fun _ h => nomatch h) (.inl rfl) (okNext_cons rfl rfl _)).trans ?_
    exact step_rBrace c suf ⟨⟨none, none⟩, [t]⟩ rfl (openKids F) _ rest true false
      (ins_atom hF _ rfl)
  | @call f a ts t m h ha ih =>
    intro c F rest suf lr li hF hadm hs hn
    subst ha
    obtain ⟨rfl, tok, ht, ht1, ht2⟩ := h.head suf
    exact fills_prefix (.identifier f) (.fn f) ih rfl (by decide : 190 < 200) rfl rfl
      (by decide : 380 < 400) c F rest suf lr li hF hadm (not_juxtaposed hs _ rfl)
      (by rw [ht, tokenToNode_identifier, ht1, ht2]; rfl) (.inr ⟨rfl, rfl⟩) hn
  | neg _ hbelow ih =>
    intro c F rest suf lr li hF hadm hs hn
    -- no atom (`a = false`): no operand stands directly before it, `-` is the prefix operator
    obtain rfl : lr = false := by simpa using hs
    exact fills_prefix .minus .neg ih rfl (by decide) rfl rfl hbelow c F rest suf false li hF
      hadm rfl rfl (.inl rfl) hn
  | not _ hbelow ih =>
    intro c F rest suf lr li hF hadm hs hn
    obtain rfl : lr = false := by simpa using hs
    exact fills_prefix .not .not ih rfl (by decide) rfl rfl hbelow c F rest suf false li hF
      hadm rfl rfl (.inl rfl) hn
  | @bin op a₁ ts₁ t₁ m₁ a₂ ts₂ t₂ m₂ _ _ hstop hleft hbelow ih₁ ih₂ =>
    intro c F rest suf lr li hF hadm hs hn
    obtain rfl : lr = false := by simpa using hs
    obtain ⟨_, _, h3, h4, h5, h6⟩ := binop_facts op
    obtain ⟨k1, k2, k3, k4⟩ := binop_token_facts op
    -- the left operand fills the slot, the operator takes it as first child of a new frame
    -- (`ins_binary`), the right operand fills that frame
    rw [List.append_assoc, List.cons_append,
      ih₁ c F rest _ false li hF (fun f hf => Nat.lt_of_lt_of_le (hadm f hf) hleft)
        (.inl rfl) (okNext_cons k4 k2 _),
      step_push c op.token _ _ rest true false (Node.new op.toOperator)
        (openKids (F ++ [⟨op.toOperator, [t₁]⟩]))
        (by simp [juxtaposed, k1, k2]) (binop_token op _ _) h6
        (ins_binary hF t₁ _ (fun g hg => (descends_iff _ _).2 (.inr (hadm g hg))) hstop h4 h5), k3]
    exact fills_frame ih₂ c F ⟨op.toOperator, [t₁]⟩ rest suf _ _ hF (by cases op <;> rfl)
      (by rw [h3]; have := docPrec_le op; omega) (below_of_lbp hadm hbelow) hbelow (.inl rfl) hn
  | @assign op x a ts t m _ hbelow ih =>
    intro c F rest suf lr li hF hadm hs hn
    obtain rfl : lr = false := by simpa using hs
    obtain ⟨h1, h2, h3, h4, h5⟩ := assignop_facts op
    obtain ⟨k1, k2, k3, k4⟩ := assignop_token_facts op
    have hstop : descends (Operator.varWrite x) op.toOperator false = false := by
      simp only [descends, h1, h2]
      simp [Operator.precedence, Operator.kind, OpKind.precedence]
    -- `x` before an assignment token becomes the leaf `varWrite x`; then as for a binary operator
    rw [List.cons_append, List.cons_append,
      step_push c (.identifier x) _ (openKids F) rest false li ⟨.varWrite x, []⟩
        [plug F ⟨.varWrite x, []⟩] rfl
        (by rw [List.head?_cons, tokenToNode_identifier, k4]; rfl) rfl (ins_atom hF _ rfl)]
    show treeLoop _ _ true true = _
    -- the left node is given: from `hstop` alone Lean would have to solve `?t.op = .varWrite x`
    rw [step_push c op.token _ _ rest true true (Node.new op.toOperator)
        (openKids (F ++ [⟨op.toOperator, [⟨.varWrite x, []⟩]⟩]))
        (by simp [juxtaposed, k1, k2]) (assignop_token op _ _ _) h5
        (ins_binary hF ⟨.varWrite x, []⟩ _ (fun g hg => (descends_iff _ _).2 (.inr (hadm g hg)))
          hstop h3 h4), k3]
    exact fills_frame ih c F ⟨op.toOperator, [⟨.varWrite x, []⟩]⟩ rest suf _ _ hF
      (by cases op <;> rfl) (by rw [h2]; omega) (below_of_lbp hadm hbelow) hbelow (.inl rfl) hn

/-- the whole input: an operand under the top-level root -/
theorem Opd.tree {a ts t m} (h : Opd a ts t m) :
    tokensToOperatorTree ts = .ok ⟨.rootNode, [t]⟩ := by
  have h := h.fills ⟨none, none⟩ [] [] [] false false .nil (fun _ h => nomatch h) (.inl rfl)
    (fun _ h => nomatch h)
  simp only [List.append_nil, Lvl.toList, Ctx.frames, Lvl.item, openKids, plug] at h
  simp [tokensToOperatorTree, Node.rootNode, h, treeLoop, collapseAllSequences,
    collapseAllLoop_root ⟨.rootNode, [t]⟩ [] rfl, rootNode_fits]

/-- `render` writes enough parentheses -/
theorem render_opd (e : Expr) : Opd e.headPrec.isNone (render e) (toTree e) (idx e) := by
  induction e with
  | lit l => exact .lit l
  | var x => exact .var x
  | paren e ih => exact ih.paren
  | call f a ih =>
    exact .call f (Opd.operand _ ih fun _ => ih)
      (by unfold needsParenArg; cases a.headPrec <;> rfl)
  | neg e ih => exact .neg (Opd.operand _ ih fun _ => ih) (idx_unary e)
  | not e ih => exact .not (Opd.operand _ ih fun _ => ih) (idx_unary e)
  | bin op l r ihl ihr =>
    exact .bin op (Opd.operand _ ihl fun _ => ihl) (Opd.operand _ ihr fun _ => ihr)
      (stop_left op l rfl) (idx_left op l) (idx_rightL op r .inl)
  | assign op x rhs ih => exact .assign op x (Opd.operand _ ih fun _ => ih) (idx_rhs op rhs)

/-- the frames that let every operator of `tops e` through hold their slots more weakly than `idx e`:
the head of `e` is among them -/
theorem adm_idx {F : List Frame} (hF : FOK F) {e : Expr} (h : Adm F e) :
    ∀ f ∈ F, rbp f.op < idx e := by
  intro f hf
  have h400 := rbp_lt (hF f hf).2
  induction e with
  | neg e ih | not e ih =>
    rw [idx]
    cases hb : needsParenUnary e with
    | true => exact h400
    | false => exact ih fun f hf o ho => h f hf o (by simp [tops, hb, ho])
  | bin op l r =>
    exact ((descends_iff _ _).1 (h f hf _ (by simp [tops]))).resolve_left
      (by simp [(binop_facts op).1])
  | assign op x rhs =>
    exact ((descends_iff _ _).1 (h f hf _ (by simp [tops]))).resolve_left
      (by simp [(assignop_facts op).1])
  | _ => exact h400

/-- reading `render e` in an operand position of the spine `F` fills the open slot with
`toTree e` -/
def Goal (e : Expr) : Prop :=
  ∀ (F : List Frame) (rest : List Node) (suf : List Token) (lr li : Bool),
    FOK F → Adm F e → (lr = false ∨ (li = true ∧ e.headPrec = none)) → okNext suf →
    treeLoop (render e ++ suf) (openS R F :: rest) lr li
      = treeLoop suf (plug (R :: F) (toTree e) :: rest) true false

theorem parse_main (e : Expr) : Goal e := fun F rest suf lr li hF hadm hs hn => by
  rw [openS_R]
  exact (render_opd e).fills ⟨none, none⟩ F rest suf lr li hF (adm_idx hF hadm)
    (hs.imp_right (.imp_right fun h => by rw [h]; rfl)) hn

theorem operand {e : Expr} (ih : Goal e) (b : Bool) (F : List Frame) (rest : List Node)
    (suf : List Token) (lr li : Bool) (hF : FOK F) (hadm : b = false → Adm F e)
    (hs : lr = false ∨ (li = true ∧ (b = true ∨ e.headPrec = none))) (hn : okNext suf) :
    treeLoop (wrap b (render e) ++ suf) (openS R F :: rest) lr li
      = treeLoop suf (plug (R :: F) (wrapTree b (toTree e)) :: rest) true false := by
  cases b with
  | false =>
    exact ih F rest suf lr li hF (hadm rfl) (hs.imp_right (.imp_right fun h => by simpa using h)) hn
  | true =>
    rw [openS_R]
    exact (render_opd e).paren.fills ⟨none, none⟩ F rest suf lr li hF
      (fun f hf => rbp_lt (hF f hf).2) (hs.imp_right fun h => ⟨h.1, rfl⟩) hn

/-- C02: the canonical rendering of an expression parses to the documented operator tree -/
theorem C02_parse (e : Expr) :
    tokensToOperatorTree (render e) = .ok ⟨.rootNode, [toTree e]⟩ :=
  (render_opd e).tree

/-- `renderL` writes enough parentheses -/
theorem renderL_opd (e : Expr) :
    ∀ nx, Opd e.headPrec.isNone (renderL e nx) (toTreeL e nx) (idx e) := by
  induction e with
  | lit l => exact fun _ => .lit l
  | var x => exact fun _ => .var x
  | paren e ih => exact fun _ => (ih false).paren
  | call f a ih =>
    exact fun nx => .call f (Opd.operand _ (ih false) fun _ => ih nx)
      (by unfold needsParenArg; cases a.headPrec <;> rfl)
  | neg e ih => exact fun nx => .neg (Opd.operand _ (ih false) fun _ => ih nx) (idx_unary e)
  | not e ih => exact fun nx => .not (Opd.operand _ (ih false) fun _ => ih nx) (idx_unary e)
  | bin op l r ihl ihr =>
    exact fun nx => .bin op (Opd.operand _ (ihl false) fun _ => ihl _)
      (Opd.operand _ (ihr false) fun _ => ihr nx) (stop_left op l (toTreeL_op l _))
      (idx_left op l) (idx_rightL op r needsParenRightL_false)
  | assign op x rhs ih =>
    exact fun nx => .assign op x (Opd.operand _ (ih false) fun _ => ih nx) (idx_rhs op rhs)

/-- C02 for the permissive rendering, for either value of the flag (`nx`: the expression is
followed by `^`) -/
theorem C02_parse_loose_flag (e : Expr) (nx : Bool) :
    tokensToOperatorTree (renderL e nx) = .ok ⟨.rootNode, [toTreeL e nx]⟩ :=
  (renderL_opd e nx).tree

theorem C02_parse_loose (e : Expr) :
    tokensToOperatorTree (renderL e false) = .ok ⟨.rootNode, [toTreeL e false]⟩ :=
  C02_parse_loose_flag e false

end Evalexpr.Spec

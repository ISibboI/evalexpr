/-
Proofs/LexChars.lean — the character loop `lexNormal` on the pieces a rendering is made of:
operator characters, separators, gaps, words and string literals; pass by pass (`lexNormal_cons`),
with what `parse_string_literal` and `try_skip_comment` read of a quoted text and of a comment.
-/
import EvalexprVerif.Spec.Lex
import EvalexprVerif.Proofs.LexLoop

namespace Evalexpr.Spec
open Evalexpr

/-- every separator leaves exactly one `.whitespace` -/
def gapPartials (g : Gap) : List PartialToken := List.replicate g.length .whitespace

/-- the accumulator (reversed) ends with a literal -/
def headLit : List PartialToken → Bool
  | .literal _ :: _ => true
  | _ => false

theorem pushPartial_push (acc : List PartialToken) (p : PartialToken)
    (h : headLit acc = false ∨ ∀ l, p ≠ .literal l) : pushPartial acc p = p :: acc := by
  unfold pushPartial
  split
  · rcases h with h | h
    · simp [headLit] at h
    · exact absurd rfl (h _)
  · rfl

theorem pushPartial_lit (l w : Str) (rest : List PartialToken) :
    pushPartial (.literal l :: rest) (.literal w) = .literal (l ++ w) :: rest := rfl

theorem lexNormal_cons_other (c : Char) (rest : Str) (acc : List PartialToken)
    (h1 : c ≠ '"') (h2 : c ≠ '/') :
    lexNormal (c :: rest) acc = lexNormal rest (pushPartial acc (charToPartialToken c)) := by
  rw [lexNormal_cons, if_neg (by simpa using h1), if_neg (by simpa using h2)]

theorem lexNormal_slash (rest : Str) (acc : List PartialToken)
    (h1 : rest.head? ≠ some '/') (h2 : rest.head? ≠ some '*') :
    lexNormal ('/' :: rest) acc = lexNormal rest (.slash :: acc) := by
  have hs : skipCommentSpec rest = .ok (false, rest) := by
    cases rest with
    | nil => rfl
    | cons n cs =>
      simp only [List.head?_cons, ne_eq, Option.some.injEq] at h1 h2
      simp [skipCommentSpec, h1, h2]
  rw [lexNormal_cons, if_neg (by decide), if_pos (beq_self_eq_true _), hs]
  exact congrArg _ (pushPartial_push _ _ (.inr (by intro l h; cases h)))

theorem lexNormal_block (b : Str) (acc : List PartialToken) :
    lexNormal ('/' :: '*' :: b) acc = match blockComment b with
      | some r => lexNormal r (.whitespace :: acc)
      | none => .error unmatchedInlineComment := by
  rw [lexNormal_cons, if_neg (by decide), if_pos (beq_self_eq_true _), skipCommentSpec, if_neg (by decide),
    if_pos (beq_self_eq_true _)]
  cases blockComment b <;> rfl

theorem lexNormal_line (b : Str) (acc : List PartialToken) :
    lexNormal ('/' :: '/' :: b) acc = lexNormal (lineComment b) (.whitespace :: acc) := by
  rw [lexNormal_cons, if_neg (by decide), if_pos (beq_self_eq_true _), skipCommentSpec,
    if_pos (beq_self_eq_true _)]

theorem isWordChar_iff (c : Char) : isWordChar c = true ↔
    c ∉ specialChars ∧ isWhitespace c = false ∧ c ≠ '"' := by
  simp [isWordChar, and_assoc]

theorem ne_of_not_special {c : Char} (h : c ∉ specialChars) (d : Char) (hd : d ∈ specialChars) :
    c ≠ d := fun e => h (e ▸ hd)

theorem charToPartialToken_of_not_special (c : Char) (h : c ∉ specialChars) :
    charToPartialToken c = if isWhitespace c then .whitespace else .literal [c] := by
  simp only [specialChars, List.mem_cons, List.not_mem_nil, or_false, not_or] at h
  simp [charToPartialToken, h]

theorem not_special_of_isWhitespace (c : Char) (h : isWhitespace c = true) : c ∉ specialChars := by
  intro hm
  have := List.all_eq_true.1 (by decide : specialChars.all (fun d => !isWhitespace d) = true) c hm
  simp [h] at this

theorem charToPartialToken_word (c : Char) (h : isWordChar c = true) :
    charToPartialToken c = .literal [c] := by
  obtain ⟨hs, hw, -⟩ := (isWordChar_iff c).1 h
  simp [charToPartialToken_of_not_special c hs, hw]

theorem lexNormal_ws (c : Char) (h : isWhitespace c = true) (rest : Str) (acc : List PartialToken) :
    lexNormal (c :: rest) acc = lexNormal rest (.whitespace :: acc) := by
  have hs := not_special_of_isWhitespace c h
  have hq : c ≠ '"' := by rintro rfl; revert h; decide
  rw [lexNormal_cons_other c rest acc hq (ne_of_not_special hs _ (by decide)),
    charToPartialToken_of_not_special c hs, if_pos h,
    pushPartial_push _ _ (.inr (by intro l h; cases h))]

theorem hasSubstr_cons_cons (c n : Char) (cs : Str) (h : hasSubstr ['*', '/'] (c :: n :: cs) = false) :
    (c == '*' && n == '/') = false ∧ hasSubstr ['*', '/'] (n :: cs) = false := by
  rw [hasSubstr] at h
  simp only [Bool.or_eq_false_iff] at h
  refine ⟨?_, h.2⟩
  have h1 := h.1
  simp only [List.isPrefixOf, Bool.and_true] at h1
  rwa [BEq.comm (a := c), BEq.comm (a := n)]

/-- a body without `*/` is skipped, unless a `*` at its end meets a `/` -/
theorem blockComment_append : ∀ (body t : Str), hasSubstr ['*', '/'] body = false →
    t.head? ≠ some '/' → blockComment (body ++ t) = blockComment t
  | [], _, _, _ => rfl
  | [c], t, _, ht => by
    -- the last character of the body: with a `/` at the head of `t` it could close the comment
    cases t with
    | nil => rfl
    | cons n cs =>
      have : (n == '/') = false := by simpa using ht
      simp [blockComment, this]
  | c :: n :: body, t, h, ht => by
    -- `c n` is not `*/`: on with `n :: body`
    obtain ⟨hcn, h'⟩ := hasSubstr_cons_cons c n body h
    simp only [List.cons_append]
    rw [blockComment, hcn]
    exact blockComment_append (n :: body) t h' ht

theorem lineComment_closed (body : Str) (h : body.contains '\n' = false) (rest : Str) :
    lineComment (body ++ '\n' :: rest) = rest := by
  induction body with
  | nil => simp [lineComment]
  | cons c body ih =>
    simp only [List.contains_cons, Bool.or_eq_false_iff] at h
    have : (c == '\n') = false := by rw [BEq.comm]; exact h.1
    simp only [List.cons_append, lineComment, this]
    exact ih h.2

theorem lexNormal_sep (s : Sep) (hs : s.valid = true) (rest : Str) (acc : List PartialToken) :
    lexNormal (s.text ++ rest) acc = lexNormal rest (.whitespace :: acc) := by
  cases s with
  | ws c => exact lexNormal_ws c hs rest acc
  | block b =>
    simp only [Sep.valid, Bool.not_eq_true'] at hs
    simp only [Sep.text, List.cons_append, List.append_assoc]
    rw [lexNormal_block, blockComment_append b _ hs (by simp)]
    rfl
  | line b =>
    simp only [Sep.valid, Bool.not_eq_true'] at hs
    simp only [Sep.text, List.cons_append, List.append_assoc]
    rw [lexNormal_line, lineComment_closed b hs]
    rfl

theorem gapPartials_reverse (g : Gap) : (gapPartials g).reverse = gapPartials g := by
  simp [gapPartials]

theorem lexNormal_gap (g : Gap) (hg : ∀ s ∈ g, s.valid = true) (rest : Str)
    (acc : List PartialToken) :
    lexNormal (g.text ++ rest) acc = lexNormal rest (gapPartials g ++ acc) := by
  induction g generalizing acc with
  | nil => rfl
  | cons s g ih =>
    have : Gap.text (s :: g) = s.text ++ Gap.text g := by simp [Gap.text]
    rw [this, List.append_assoc, lexNormal_sep s (hg s (by simp)), ih (fun s hs => hg s (by simp [hs]))]
    -- the whitespace was pushed first: `replicate n ws ++ ws :: acc = ws :: replicate n ws ++ acc`
    simp [gapPartials, List.replicate_succ']

theorem Gap.text_ne_nil (g : Gap) (h : g ≠ []) : g.text ≠ [] := by
  cases g with
  | nil => exact absurd rfl h
  | cons s g => cases s <;> simp [Gap.text, Sep.text]

theorem lexNormal_word_cont (w : Str) (hw : w.all isWordChar = true) (l : Str) (rest : Str)
    (acc : List PartialToken) :
    lexNormal (w ++ rest) (.literal l :: acc) = lexNormal rest (.literal (l ++ w) :: acc) := by
  induction w generalizing l with
  | nil => simp
  | cons c w ih =>
    simp only [List.all_cons, Bool.and_eq_true] at hw
    obtain ⟨hs, -, hq⟩ := (isWordChar_iff c).1 hw.1
    simp only [List.cons_append]
    rw [lexNormal_cons_other c _ _ hq (ne_of_not_special hs _ (by decide)),
      charToPartialToken_word c hw.1, pushPartial_lit, ih hw.2]
    simp

theorem lexNormal_word (w : Str) (hw : isWord w = true) (rest : Str) (acc : List PartialToken)
    (hacc : headLit acc = false) :
    lexNormal (w ++ rest) acc = lexNormal rest (.literal w :: acc) := by
  cases w with
  | nil => simp [isWord] at hw
  | cons c w =>
    simp only [isWord, List.isEmpty_cons, Bool.not_false, List.all_cons, Bool.true_and,
      Bool.and_eq_true] at hw
    obtain ⟨hs, -, hq⟩ := (isWordChar_iff c).1 hw.1
    simp only [List.cons_append]
    rw [lexNormal_cons_other c _ _ hq (ne_of_not_special hs _ (by decide)),
      charToPartialToken_word c hw.1, pushPartial_push _ _ (.inl hacc),
      lexNormal_word_cont w hw.2]
    simp

theorem stringLit_quote (rest s : Str) :
    stringLit ('"' :: rest) s = .ok (.token (.string s), rest) := by
  cases rest <;> simp [stringLit]

theorem stringLit_esc (e : Char) (he : e = '"' ∨ e = '\\') (rest s : Str) :
    stringLit ('\\' :: e :: rest) s = stringLit rest (s ++ [e]) := by
  rw [stringLit.eq_3]
  have : ('\\' == '"') = false := by decide
  rcases he with rfl | rfl <;> simp [this]

theorem stringLit_plain (c : Char) (h1 : c ≠ '"') (h2 : c ≠ '\\') (rest s : Str) :
    stringLit (c :: rest) s = stringLit rest (s ++ [c]) := by
  cases rest with
  | nil => rw [stringLit.eq_2]; simp [h1, h2]
  | cons e cs => rw [stringLit.eq_3]; simp [h1, h2]

theorem stringLit_escape (t rest s : Str) :
    stringLit (escape t ++ rest) s = stringLit rest (s ++ t) := by
  induction t generalizing s with
  | nil => simp [escape]
  | cons c t ih =>
    rw [escape]
    by_cases h : c = '"' ∨ c = '\\'
    · have : (c == '"' || c == '\\') = true := by simpa using h
      rw [this]
      simp only [↓reduceIte, List.cons_append]
      rw [stringLit_esc c h, ih]; simp
    · have : (c == '"' || c == '\\') = false := by simpa using h
      rw [this]
      simp only [Bool.false_eq_true, ↓reduceIte, List.cons_append]
      rw [stringLit_plain c (fun e => h (.inl e)) (fun e => h (.inr e)), ih]; simp

theorem lexNormal_string (t rest : Str) (acc : List PartialToken) :
    lexNormal (quote t ++ rest) acc = lexNormal rest (.token (.string t) :: acc) := by
  simp only [quote, List.cons_append, List.append_assoc, List.nil_append]
  rw [lexNormal_cons, if_pos (beq_self_eq_true _), stringLit_escape, stringLit_quote]; rfl

end Evalexpr.Spec

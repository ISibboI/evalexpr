/-
Proofs/ContextRefine.lean — properties C04 (variables / HashMapContext refinement of the abstract
map model), C09 (function resolution) and C12 (entry points are views of one evaluator).
-/
import EvalexprVerif.Spec.RefCtx
import EvalexprVerif.Model.Interface
import EvalexprVerif.Proofs.EvalOps

namespace Evalexpr.Spec

theorem alookup_ainsert {β} (k k' : Str) (v : β) (l : List (Str × β)) :
    alookup k' (ainsert k v l) = if k' = k then some v else alookup k' l := by
  induction l with
  | nil => by_cases h : k' = k <;> simp [ainsert, alookup, h, Ne.symm]
  | cons p rest ih =>
    by_cases hp : p.1 = k
    · -- the head is the entry for `k`: replaced in place
      by_cases h : k' = k <;> simp [ainsert, alookup, hp, h, Ne.symm]
    · by_cases h : p.1 = k'
      · -- the head is the entry for `k' ≠ k`: kept, and found first
        simp [ainsert, alookup, h, h ▸ hp]
      · -- the head is for another key: kept and skipped
        simp [ainsert, alookup, hp, h, ih]

theorem mem_ainsert {β} (k : Str) (v : β) (l : List (Str × β)) (p : Str × β)
    (hp : p ∈ ainsert k v l) : p = (k, v) ∨ p ∈ l := by
  induction l with
  | nil => simpa [ainsert] using hp
  | cons q rest ih =>
    unfold ainsert at hp
    split at hp
    · exact (List.mem_cons.1 hp).imp_right (List.mem_cons_of_mem _)
    · rcases List.mem_cons.1 hp with hp | hp
      · exact Or.inr (hp ▸ List.mem_cons_self ..)
      · exact (ih hp).imp_right (List.mem_cons_of_mem _)

theorem keysNodup_ainsert {β} (k : Str) (v : β) (l : List (Str × β)) (h : keysNodup l) :
    keysNodup (ainsert k v l) := by
  induction l with
  | nil => exact ⟨nofun, trivial⟩
  | cons q rest ih =>
    unfold ainsert
    split
    · next hk => exact ⟨fun p hp => (beq_iff_eq.1 hk) ▸ h.1 p hp, h.2⟩
    · next hk =>
      refine ⟨fun p hp => ?_, ih h.2⟩
      rcases mem_ainsert k v rest p hp with rfl | hp
      · exact fun e => hk (beq_iff_eq.2 e.symm)
      · exact h.1 p hp

theorem mem_iff_alookup {β} (l : List (Str × β)) (hl : keysNodup l) (k : Str) (v : β) :
    (k, v) ∈ l ↔ alookup k l = some v := by
  induction l with
  | nil => simp [alookup]
  | cons q rest ih =>
    obtain ⟨k0, v0⟩ := q
    obtain ⟨h1, h2⟩ := hl
    by_cases hk : k0 = k
    · subst hk
      simp only [alookup, beq_self_eq_true, if_true, List.mem_cons, Prod.mk.injEq, true_and,
        Option.some.injEq]
      exact ⟨fun h => h.elim Eq.symm fun h => absurd rfl (h1 _ h), fun h => Or.inl h.symm⟩
    · have hb : (k0 == k) = false := by simpa using hk
      simp only [alookup, hb, List.mem_cons, Prod.mk.injEq, Bool.false_eq_true, if_false]
      rw [← ih h2]
      exact ⟨fun h => h.elim (fun h => absurd h.1.symm hk) id, Or.inr⟩

theorem keysNodup_nodup {β} (l : List (Str × β)) (hl : keysNodup l) : (l.map (·.1)).Nodup := by
  induction l with
  | nil => simp
  | cons q rest ih =>
    simp only [List.map_cons, List.nodup_cons, List.mem_map, not_exists, not_and]
    exact ⟨fun p hp => hl.1 p hp, ih hl.2⟩

theorem setValue_ok (h : HashMapCtx) (id : Str) (v : Value)
    (ht : ∀ old, alookup id h.vars = some old → old.type = v.type) :
    ∃ h', h.setValue id v = .ok h' ∧ alookup id h'.vars = some v ∧
      (∀ k, k ≠ id → alookup k h'.vars = alookup k h.vars) ∧ h'.funs = h.funs ∧
      h'.noBuiltins = h.noBuiltins := by
  refine ⟨{ h with vars := ainsert id v h.vars }, ?_, by simp [alookup_ainsert],
    fun k hk => by simp [alookup_ainsert, hk], rfl, rfl⟩
  unfold HashMapCtx.setValue
  cases hl : alookup id h.vars with
  | none => rfl
  | some old => simp [ht old hl]

/-- a value of another type is rejected with the matching expected-type error -/
theorem C04_type_safe (h : HashMapCtx) (id : Str) (v old : Value)
    (hold : alookup id h.vars = some old) (ht : old.type ≠ v.type) :
    h.setValue id v = .error (Err.expectedType old v) := by
  simp [HashMapCtx.setValue, hold, ht]

theorem C04_overwrite (h : HashMapCtx) (id : Str) (v old : Value)
    (hold : alookup id h.vars = some old) (ht : old.type = v.type) :
    ∃ h', h.setValue id v = .ok h' ∧ alookup id h'.vars = some v ∧
      (∀ k, k ≠ id → alookup k h'.vars = alookup k h.vars) ∧ h'.funs = h.funs ∧
      h'.noBuiltins = h.noBuiltins :=
  setValue_ok h id v fun o ho => by cases hold.symm.trans ho; exact ht

theorem C04_clear_forgets (h : HashMapCtx) (id : Str) (v : Value) :
    alookup id h.clearVariables.vars = none ∧
      ∃ h', h.clearVariables.setValue id v = .ok h' ∧ alookup id h'.vars = some v := by
  obtain ⟨h', h1, h2, _⟩ := setValue_ok h.clearVariables id v nofun
  exact ⟨rfl, h', h1, h2⟩

theorem C04_listing (h : HashMapCtx) (hinv : HashMapCtx.Inv h) (k : Str) (v : Value) :
    (k, v) ∈ Ctx.iterVariables (.hashMap h) ↔ Ctx.getValue (.hashMap h) k = some v :=
  mem_iff_alookup h.vars hinv.1 k v

theorem C04_listing_nodup (h : HashMapCtx) (hinv : HashMapCtx.Inv h) :
    (Ctx.iterVariableNames (.hashMap h)).Nodup :=
  keysNodup_nodup h.vars hinv.1

theorem assignBase_isAssignKind {op base : Operator} (hb : op.assignBase = some base) :
    Operator.isAssignKind op = true := by
  cases op <;> first | rfl | cases hb

/-- `x op= v` behaves as `x = (x op v)` -/
theorem C04_opassign (op base : Operator) (x : Str) (v old : Value) (s : St)
    (hb : op.assignBase = some base) (hx : s.ctx.getValue x = some old) :
    op.evalMut [.string x, v] s =
      match base.eval [old, v] s with
      | (.error e, s') => (.error e, s')
      | (.ok r, s') => Operator.evalMut .assign [.string x, r] s' := by
  rw [evalMut_of_assign op _ s (assignBase_isAssignKind hb), eval_pure (assignBase_isPure hb)]
  simp only [assignArgs, Value.asString, hb, hx]
  cases base.evalPure [old, v] with
  | error e => rfl
  | ok r => exact (evalMut_of_assign .assign [.string x, r] s rfl).symm

theorem RefCtx.Equiv.refl (c : RefCtx) : c.Equiv c := ⟨fun _ => rfl, fun _ => rfl, rfl⟩
theorem RefCtx.Equiv.symm {a b : RefCtx} (h : a.Equiv b) : b.Equiv a :=
  ⟨fun k => (h.1 k).symm, fun k => (h.2.1 k).symm, h.2.2.symm⟩
theorem RefCtx.Equiv.trans {a b c : RefCtx} (h : a.Equiv b) (h' : b.Equiv c) : a.Equiv c :=
  ⟨fun k => (h.1 k).trans (h'.1 k), fun k => (h.2.1 k).trans (h'.2.1 k), h.2.2.trans h'.2.2⟩

/-- observable equality of abstract contexts is equality -/
theorem RefCtx.Equiv.eq {a b : RefCtx} (h : a.Equiv b) : a = b := by
  cases a; cases b
  obtain ⟨h1, h2, h3⟩ := h
  congr <;> funext k
  · exact h1 k
  · exact h2 k

theorem specStep_congr (c c' : RefCtx) (heq : c.Equiv c') (op : CtxOp) :
    (specStep c op).1 = (specStep c' op).1 ∧ (specStep c op).2.Equiv (specStep c' op).2 := by
  cases heq.eq; exact ⟨rfl, .refl _⟩

/-- `set_value` as a step on the model -/
def modelSet (h : HashMapCtx) (id : Str) (v : Value) : Obs × HashMapCtx :=
  match h.setValue id v with
  | .ok h' => (.ok (), h')
  | .error e => (.error e, h)

/-- a step of the model against a step of the abstract map: same answer, the new state abstracts
to the new abstract state, and the representation invariant holds -/
def StepRefines (m : Obs × HashMapCtx) (s : Obs × RefCtx) : Prop :=
  m.1 = s.1 ∧ absCtx m.2 = s.2 ∧ HashMapCtx.Inv m.2

theorem StepRefines.same {h : HashMapCtx} (hinv : HashMapCtx.Inv h) (o : Obs) :
    StepRefines (o, h) (o, absCtx h) :=
  ⟨rfl, rfl, hinv⟩

theorem set_refines (h : HashMapCtx) (hinv : HashMapCtx.Inv h) (id : Str) (v : Value) :
    StepRefines (modelSet h id v) (specStep (absCtx h) (.setValue id v)) := by
  have hins : StepRefines (.ok (), { h with vars := ainsert id v h.vars })
      (.ok (), { absCtx h with vars := fun k => if k = id then some v else alookup k h.vars }) :=
    ⟨rfl, by simp only [absCtx, alookup_ainsert], keysNodup_ainsert _ _ _ hinv.1, hinv.2⟩
  simp only [modelSet, specStep, HashMapCtx.setValue, RefCtx.setValue, absCtx]
  cases alookup id h.vars with
  | none => exact hins
  | some old =>
    by_cases ht : old.type = v.type
    · -- bound to a value of the same type: overwritten
      simp only [ht, beq_self_eq_true, if_true]; exact hins
    · -- bound to a value of another type: the same error on both sides, nothing changes
      simp only [ht, beq_eq_false_iff_ne.2 ht, if_false, Bool.false_eq_true]; exact .same hinv _

theorem isOpAssign_spec {op : Operator} (h : isOpAssign op = true) :
    Operator.isAssignKind op = true ∧ ∃ base, op.assignBase = some base := by
  have : op.assignBase.isSome = isOpAssign op := by cases op <;> rfl
  obtain ⟨base, hb⟩ := Option.isSome_iff_exists.1 (this.trans h)
  exact ⟨assignBase_isAssignKind hb, base, hb⟩

/-- an expression assignment on the model: the evaluator works out what to store
(`assignArgs`), the rest is `set_value`. `.assign id v` is the case `op = .assign`. -/
theorem modelStep_opAssign (op : Operator) (hk : Operator.isAssignKind op = true) (h : HashMapCtx)
    (id : Str) (v : Value) :
    modelStep h (.opAssign op id v) =
      match assignArgs op [.string id, v] (.hashMap h) with
      | .error e => (.error e, h)
      | .ok (x, w) => modelSet h x w := by
  simp only [modelStep, evalMut_of_assign op _ _ hk]
  cases assignArgs op [.string id, v] (.hashMap h) with
  | error e => rfl
  | ok p =>
    simp only [Ctx.setValue, modelSet]
    cases h.setValue p.1 p.2 <;> rfl

theorem step_refines (h : HashMapCtx) (hinv : HashMapCtx.Inv h) (op : CtxOp) (hwf : op.wf = true) :
    StepRefines (modelStep h op) (specStep (absCtx h) op) := by
  cases op with
  | setValue id v => exact set_refines h hinv id v
  | assign id v => exact (modelStep_opAssign .assign rfl h id v) ▸ set_refines h hinv id v
  | opAssign op id v =>
    obtain ⟨hk, base, hb⟩ := isOpAssign_spec (show isOpAssign op = true from hwf)
    rw [modelStep_opAssign op hk]
    simp only [specStep, absCtx, assignArgs, Value.asString, Ctx.getValue, hb]
    -- both sides read `id`, apply `base` to (old, v) and store the result; an unbound `id` or a
    -- failing operator gives the same error on both sides and changes nothing
    cases alookup id h.vars with
    | none => exact .same hinv _
    | some old =>
      dsimp only
      cases base.evalPure [old, v] with
      | error e => exact .same hinv _
      | ok r => exact set_refines h hinv id r
  | setFunction id f =>
    exact ⟨rfl, by simp only [modelStep, specStep, RefCtx.setFunction, absCtx, alookup_ainsert],
      hinv.1, keysNodup_ainsert _ _ _ hinv.2⟩
  | clearVariables => exact ⟨rfl, rfl, trivial, hinv.2⟩
  | clearFunctions => exact ⟨rfl, rfl, hinv.1, trivial⟩
  | clear => exact ⟨rfl, rfl, trivial, trivial⟩
  | setBuiltinsDisabled d => exact ⟨rfl, rfl, hinv⟩

/-- one step of the model refines one step of the abstract map model -/
theorem C04_step_refines (h : HashMapCtx) (op : CtxOp) (hinv : HashMapCtx.Inv h)
    (hwf : op.wf = true) :
    (modelStep h op).1 = (specStep (absCtx h) op).1 ∧
      (absCtx (modelStep h op).2).Equiv (specStep (absCtx h) op).2 ∧
      HashMapCtx.Inv (modelStep h op).2 := by
  obtain ⟨h1, h2, h3⟩ := step_refines h hinv op hwf
  exact ⟨h1, h2 ▸ .refl _, h3⟩

def runModel : HashMapCtx → List CtxOp → List Obs × HashMapCtx
  | h, [] => ([], h)
  | h, op :: ops =>
    let (o, h') := modelStep h op; let (os, h'') := runModel h' ops; (o :: os, h'')
def runSpec : RefCtx → List CtxOp → List Obs × RefCtx
  | c, [] => ([], c)
  | c, op :: ops =>
    let (o, c') := specStep c op; let (os, c'') := runSpec c' ops; (o :: os, c'')

theorem run_refines (ops : List CtxOp) (hwf : ∀ op ∈ ops, op.wf = true) (h : HashMapCtx)
    (hinv : HashMapCtx.Inv h) :
    (runModel h ops).1 = (runSpec (absCtx h) ops).1 ∧
      absCtx (runModel h ops).2 = (runSpec (absCtx h) ops).2 ∧
      HashMapCtx.Inv (runModel h ops).2 := by
  induction ops generalizing h with
  | nil => exact ⟨rfl, rfl, hinv⟩
  | cons op ops ih =>
    obtain ⟨h1, h2, h3⟩ := step_refines h hinv op (hwf op (List.mem_cons_self ..))
    obtain ⟨i1, i2, i3⟩ := ih (fun o ho => hwf o (List.mem_cons_of_mem _ ho)) _ h3
    simp only [runModel, runSpec]
    rw [← h1, ← h2]
    exact ⟨by rw [i1], i2, i3⟩

theorem C04_refines (ops : List CtxOp) (hwf : ∀ op ∈ ops, op.wf = true) :
    (runModel {} ops).1 = (runSpec RefCtx.empty ops).1 ∧
      (absCtx (runModel {} ops).2).Equiv (runSpec RefCtx.empty ops).2 ∧
      HashMapCtx.Inv (runModel {} ops).2 := by
  obtain ⟨h1, h2, h3⟩ := run_refines ops hwf {} ⟨trivial, trivial⟩
  exact ⟨h1, h2 ▸ .refl _, h3⟩

/-- in the `.assign` / `.opAssign` cases of `modelStep` the evaluator's final context is a
`HashMapContext` again -/
theorem evalMut_hashMap_ctx (op : Operator) (hop : op = .assign ∨ isOpAssign op = true)
    (h : HashMapCtx) (id : Str) (v : Value) (log : List (Str × Value)) :
    ∃ h', (Operator.evalMut op [.string id, v] ⟨.hashMap h, log⟩).2 = ⟨.hashMap h', log⟩ := by
  have hk : Operator.isAssignKind op = true := hop.elim (· ▸ rfl) fun h => (isOpAssign_spec h).1
  rcases evalMut_assign_shape op [.string id, v] ⟨.hashMap h, log⟩ hk with
    ⟨e, hp⟩ | ⟨x, w, c, hc, hp⟩ <;> rw [hp]
  · exact ⟨h, rfl⟩
  · obtain ⟨h', rfl⟩ := setValue_hashMap hc
    exact ⟨h', rfl⟩

theorem C09_resolution_partial (id : Str) (arg : Value) (s : St) (f : UserFn)
    (hf : s.ctx.userFn id = some f) (hne : ∀ x, f arg ≠ .error (.functionIdentifierNotFound x)) :
    callFunction id arg s = (f arg, { s with log := s.log ++ [(id, arg)] }) := by
  -- the catch-all arm's match equation has the side condition `∀ x, f arg ≠ .error (.fINF x)`,
  -- which `simp` discharges with `hne`
  simp only [callFunction, hf]

theorem C09_K2_witness :
    let f : UserFn := fun _ => .error (.functionIdentifierNotFound ['z', 'z'])
    let s : St := ⟨.hashMap { funs := [(cl!"max", f)] }, []⟩
    (callFunction cl!"max" (.tuple [.int 1, .int 3]) s).1 = .ok (.int 3) := by
  intro f s
  rfl

theorem C09_fallback (id : Str) (arg : Value) (s : St) (hf : s.ctx.userFn id = none) :
    callFunction id arg s =
      (if s.ctx.builtinsDisabled then .error (.functionIdentifierNotFound id)
       else match builtinFunction id with
         | some b => b.call arg
         | none => .error (.functionIdentifierNotFound id), s) := by
  rw [callFunction_eq, hf]
  simp only [afterCall]
  cases s.ctx.builtinsDisabled <;> rfl

theorem C09_disabled (id : Str) (arg : Value) (s : St) (hf : s.ctx.userFn id = none)
    (hd : s.ctx.builtinsDisabled = true) :
    (callFunction id arg s).1 = .error (.functionIdentifierNotFound id) := by
  rw [C09_fallback id arg s hf, hd]
  rfl

theorem C09_policy_hashMap (h : HashMapCtx) (d : Bool) :
    ∃ h', Ctx.setBuiltinsDisabled (.hashMap h) d = .ok (.hashMap h') ∧ h'.noBuiltins = d ∧
      h'.vars = h.vars ∧ h'.funs = h.funs :=
  ⟨{ h with noBuiltins := d }, rfl, rfl, rfl, rfl⟩

theorem C09_namespaces (h : HashMapCtx) (fs : List (Str × UserFn)) (vs : List (Str × Value))
    (id : Str) :
    Ctx.getValue (.hashMap { h with funs := fs }) id = Ctx.getValue (.hashMap h) id ∧
    Ctx.userFn (.hashMap { h with vars := vs }) id = Ctx.userFn (.hashMap h) id :=
  ⟨rfl, rfl⟩

theorem C09_all_builtins_unknown (p : Str × Builtin) (hp : p ∈ builtinTable) (arg : Value) (s : St)
    (hf : s.ctx.userFn p.1 = none) (hd : s.ctx.builtinsDisabled = true) :
    (Operator.eval (.fn p.1) [arg] s).1 = .error (.functionIdentifierNotFound p.1) := by
  have _ := hp  -- the statement holds for every name; the hypothesis only scopes the property
  simp only [Operator.eval]
  exact C09_disabled p.1 arg s hf hd

theorem C09_builtin_lookup (p : Str × Builtin) (hp : p ∈ builtinTable) :
    builtinFunction p.1 = some p.2 := by
  revert p
  -- the 49 names are pairwise distinct: row i is looked up through rows 1..i, 1225 string comparisons, which the
  -- kernel alone evaluates at half the price of evaluating them in the elaborator first
  decide +kernel

theorem C12_projection (k : Kind) (m : Mode) (n : Node) (s : St) :
    runTree k m n s = (k.project (runTreeUntyped m n s).1, (runTreeUntyped m n s).2) := rfl

theorem C12_precompile (k : Kind) (m : Mode) (src : List Char) (s : St) :
    runString k m src s = match buildOperatorTree src with
      | .ok n => runTree k m n s
      | .error e => (.error e, s) := by
  unfold runString
  cases buildOperatorTree src <;> rfl

theorem C12_build_error (k : Kind) (m : Mode) (src : List Char) (s : St) (e : Err)
    (h : buildOperatorTree src = .error e) : runString k m src s = (.error e, s) := by
  unfold runString
  rw [h]

theorem C12_project_value (v : Value) : Kind.project .value (.ok v) = .ok v := by
  cases v <;> rfl

theorem C12_project_typed (v : Value) :
    Kind.project .string (.ok v) = (match v with | .string s => .ok (.string s) | v => .error (.expectedString v)) ∧
    Kind.project .int (.ok v) = (match v with | .int i => .ok (.int i) | v => .error (.expectedInt v)) ∧
    Kind.project .float (.ok v) = (match v with | .float f => .ok (.float f) | v => .error (.expectedFloat v)) ∧
    Kind.project .number (.ok v) = (match v with | .int i => .ok (.float i.toFloat) | .float f => .ok (.float f) | v => .error (.expectedNumber v)) ∧
    Kind.project .boolean (.ok v) = (match v with | .boolean b => .ok (.boolean b) | v => .error (.expectedBoolean v)) ∧
    Kind.project .tuple (.ok v) = (match v with | .tuple t => .ok (.tuple t) | v => .error (.expectedTuple v)) ∧
    Kind.project .empty (.ok v) = (match v with | .empty => .ok .empty | v => .error (.expectedEmpty v)) := by
  cases v <;> exact ⟨rfl, rfl, rfl, rfl, rfl, rfl, rfl⟩

theorem C12_fresh (k : Kind) (n : Node) (s : St) :
    runTree k .fresh n s = (k.project (n.evalMut St.fresh).1, s) := rfl

end Evalexpr.Spec


/-
Proofs/AgreeFnValueType.lean — src/value/value_type.rs as translated on this run
(`Generated/FnValueType.lean`): the three `From<…Value> for ValueType` impls equal the Model's `Value.type`.
References are erased by the translation, so the three impls have the same Lean type; the `&Value`
one is the `Rs.Into Value ValueType` instance (the meaning of `.into()` / `ValueType::from(..)`).
-/
import EvalexprVerif.Generated.FnValueType
import EvalexprVerif.Translate.Attr

namespace Evalexpr.AgreeFn
open Evalexpr

/-- `impl From<&Value> for ValueType` (the meaning of `.into()` / `ValueType::from` at `Value → ValueType`) -/
theorem fn_ValueType_from_Value_agree (v : Value) : (Rs.into v : ValueType) = v.type := by cases v <;> eq_refl
theorem fn_ValueType_from_Value_def_agree (v : Value) : Gen.ValueType.from_Value v = v.type := by cases v <;> eq_refl
/-- `impl From<&mut Value> for ValueType` -/
theorem fn_ValueType_from_mut_Value_agree (v : Value) : Gen.ValueType.from_mut_Value v = v.type := by cases v <;> eq_refl
/-- `impl From<&&mut Value> for ValueType` -/
theorem fn_ValueType_from_ref_mut_Value_agree (v : Value) : Gen.ValueType.from_ref_mut_Value v = v.type := by
  cases v <;> eq_refl

attribute [rs_agree] fn_ValueType_from_Value_agree

end Evalexpr.AgreeFn

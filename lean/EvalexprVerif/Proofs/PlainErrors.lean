/-
Proofs/PlainErrors.lean — two classes of errors. A *clean* result is not one of the two unknown-identifier
errors (property C14 asks this of every function it meets); a *plain* result is moreover no panic: the
error was written out in an arm from the values at hand. Plain implies clean and no panic.
-/
import EvalexprVerif.Model.Basic

namespace Evalexpr.Spec
open Evalexpr

def Err.isUnknown : Err → Bool
  | .variableIdentifierNotFound _ | .functionIdentifierNotFound _ => true
  | _ => false

def Clean {α : Type} : Res α → Prop
  | .ok _ => True
  | .error e => Err.isUnknown e = false

def Err.isPlain : Err → Bool
  | .panic _ | .variableIdentifierNotFound _ | .functionIdentifierNotFound _ => false
  | _ => true

def Plain {α : Type} : Res α → Prop
  | .ok _ => True
  | .error e => Err.isPlain e = true

@[simp] theorem clean_ok {α : Type} (a : α) : Clean (.ok a : Res α) := trivial
@[simp] theorem clean_error {α : Type} (e : Err) :
    Clean (.error e : Res α) ↔ Err.isUnknown e = false := Iff.rfl
@[simp] theorem clean_map {α β : Type} (f : α → β) (r : Res α) : Clean (Except.map f r) ↔ Clean r := by
  cases r <;> rfl

@[simp] theorem plain_ok {α : Type} (a : α) : Plain (.ok a : Res α) := trivial
@[simp] theorem plain_error {α : Type} (e : Err) :
    Plain (.error e : Res α) ↔ Err.isPlain e = true := Iff.rfl
@[simp] theorem plain_map {α β : Type} (f : α → β) (r : Res α) : Plain (Except.map f r) ↔ Plain r := by
  cases r <;> rfl

theorem Plain.clean {α : Type} {r : Res α} (h : Plain r) : Clean r := by
  cases r with
  | ok a => trivial
  | error e =>
    cases e with
    | variableIdentifierNotFound _ | functionIdentifierNotFound _ => cases h
    | _ => rfl

theorem Plain.not_panic {α : Type} {r : Res α} (h : Plain r) : r.isPanic = false := by
  cases r with
  | ok a => rfl
  | error e =>
    cases e with
    | panic _ => cases h
    | _ => rfl

/-- the error a `match` hands on from a plain scrutinee -/
theorem Plain.of_eq {α β : Type} {r : Res α} {e : Err} (h : Plain r) (he : r = .error e) :
    Plain (.error e : Res β) := by
  subst he; exact h

theorem Clean.of_eq {α β : Type} {r : Res α} {e : Err} (h : Clean r) (he : r = .error e) :
    Clean (.error e : Res β) := by
  subst he; exact h

theorem Clean.not_var {α : Type} {r : Res α} (h : Clean r) (x : Str) :
    r ≠ .error (.variableIdentifierNotFound x) := by
  rintro rfl; cases h

theorem Clean.not_fn {α : Type} {r : Res α} (h : Clean r) (x : Str) :
    r ≠ .error (.functionIdentifierNotFound x) := by
  rintro rfl; cases h

end Evalexpr.Spec

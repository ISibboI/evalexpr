/-
The lexer of src/token/mod.rs as translated on this run (`Generated/FnLexer.lean`) computes what `Model/Lexer.lean` computes:
`input.length < fuel → Gen.f fuel input = Model …`. The fuel-indexed loops (`Rs.loopB`) finish within `length + 1` passes, which
is proved (`Rs.Flow.run_loopB_spec`: one pass through a loop body refines one unfolding of a recursive specification), not
assumed. The translated helpers hand back (value, advanced cursor) where the Model's mutually recursive functions continue into
each other: `escapeSpec`, `stringLit`, `skipCommentSpec` say what the helpers compute, and Proofs/LexLoop shows that `lexNormal`
is the loop over them (`lexNormal_cons`).
-/
import EvalexprVerif.Generated.FnLexer
import EvalexprVerif.Translate.Lemmas
import EvalexprVerif.Proofs.NoPanicLex
import EvalexprVerif.Proofs.AgreeFnNumeric

namespace Evalexpr.AgreeFn
open Evalexpr
open Evalexpr.Spec (stringLit lineComment blockComment skipCommentSpec stringLit_post skipCommentSpec_post lexNormal_nil lexNormal_cons)

theorem fn_char_to_partial_token_agree (c : Char) : Gen.char_to_partial_token c = charToPartialToken c := rfl

theorem parseDecOrHex_eq (lit : Str) : parseDecOrHex lit =
    if cl!"0x".isPrefixOf lit then F64.parseHex (lit.drop 2) else F64.parseDec lit := by
  unfold parseDecOrHex
  split
  · rfl
  · rename_i h
    rcases lit with _ | ⟨a, _ | ⟨b, rest⟩⟩
    · rfl
    · simp [List.isPrefixOf]
    · by_cases ha : a = '0'
      · by_cases hb : b = 'x'
        · exact absurd (by rw [ha, hb]) (h rest)
        · simp [List.isPrefixOf, Ne.symm hb]
      · have : ('0' == a) = false := by simp [Ne.symm ha]
        simp [List.isPrefixOf, this]

theorem fn_parse_dec_or_hex_agree (lit : Str) : Gen.parse_dec_or_hex lit = Rs.ofOption (parseDecOrHex lit) := by
  rw [parseDecOrHex_eq]
  unfold Gen.parse_dec_or_hex Rs.strip_prefix
  by_cases hp : cl!"0x".isPrefixOf lit = true
  · simp only [hp, if_true, fn_i64_from_hex_str_agree]; rfl
  · simp only [hp]
    unfold Rs.i64_from_str Rs.map_err
    cases F64.parseDec lit <;> eq_refl

/-- `parse_escape_sequence`: the character after a backslash -/
def escapeSpec : List Char → Res (Char × List Char)
  | [] => .error (.illegalEscapeSequence ['\\'])
  | e :: rest =>
    if e == '"' then .ok ('"', rest)
    else if e == '\\' then .ok ('\\', rest)
    else .error (.illegalEscapeSequence ['\\', e])

theorem fn_parse_escape_sequence_agree (cs : List Char) : Gen.parse_escape_sequence cs = escapeSpec cs := by
  cases cs with
  | nil => rfl
  | cons e rest =>
    by_cases h1 : (e == '"') = true <;> by_cases h2 : (e == '\\') = true <;>
      simp [Gen.parse_escape_sequence, escapeSpec, h1, h2]

theorem fn_parse_string_literal_agree (cs : List Char) (fuel : Nat) (h : cs.length < fuel) :
    Gen.parse_string_literal fuel cs = stringLit cs [] := by
  refine Rs.Flow.run_loopB_spec _ _ _ (fun st => st.1.length) (fun st => stringLit st.1 st.2) fuel ?_ fuel (cs, []) h h
  rintro ⟨cs, s⟩ hlt
  rcases cs with _ | ⟨c, cs⟩
  · simp [stringLit]
  by_cases h1 : (c == '"') = true
  · -- the closing quote
    rcases cs with _ | _ <;> simp [stringLit, h1]
  by_cases h2 : (c == '\\') = true
  · -- a backslash: `parse_escape_sequence` looks at the character after it
    rcases cs with _ | ⟨e, cs⟩
    · simp [stringLit, h1, h2, fn_parse_escape_sequence_agree, escapeSpec]
    · by_cases h3 : (e == '"') = true <;> by_cases h4 : (e == '\\') = true <;>
        simp [stringLit, h1, h2, h3, h4, fn_parse_escape_sequence_agree, escapeSpec] <;> omega
  · -- any other character is pushed
    rcases cs with _ | _ <;> simp [stringLit, h1, h2]

theorem fn_try_skip_comment_agree (cs : List Char) (fuel : Nat) (h : cs.length < fuel) :
    Gen.try_skip_comment fuel cs = skipCommentSpec cs := by
  unfold Gen.try_skip_comment
  rcases cs with _ | ⟨n, rest⟩
  · rfl
  · by_cases h1 : (n == '/') = true
    · simp [skipCommentSpec, h1]
      rw [Rs.Flow.run_loopB_spec _ _ _ (fun st => st.length) (fun st => .ok (true, lineComment st)) fuel ?_ fuel rest
        (by simp at h; omega) (by simp at h; omega)]
      intro st _
      cases st with
      | nil => simp [lineComment]
      | cons c cs => by_cases hc : c = '\n' <;> simp [lineComment, hc]
    · by_cases h2 : (n == '*') = true
      · simp [skipCommentSpec, h1, h2]
        rw [Rs.Flow.run_loopB_spec _ _ _ (fun st => st.1.length)
          (fun st => match blockComment st.1 with
            | some r => .ok (true, r)
            | none => if st.2 = false then .error unmatchedInlineComment else .ok (st.2, [])) fuel ?_ fuel (rest, false)
          (by simp at h ⊢; omega) (by simp at h ⊢; omega)]
        · cases blockComment rest <;> eq_refl
        · rintro ⟨st, m⟩ _
          rcases st with _ | ⟨c, _ | ⟨d, cs⟩⟩
          · cases m <;> simp [blockComment, unmatchedInlineComment]
          · simp [blockComment]
          · by_cases hc : c = '*' <;> by_cases hd : d = '/' <;> simp [blockComment, hc, hd]
      · simp [skipCommentSpec, h1, h2]

theorem ite_ne {α : Type} (c : Prop) [Decidable c] (a b z : α) (ha : a ≠ z) (hb : b ≠ z) : (if c then a else b) ≠ z := by
  split <;> assumption
theorem charToPartialToken_ne_slash (c : Char) (h : (c == '/') = false) : charToPartialToken c ≠ .slash := by
  unfold charToPartialToken
  simp only [h, Bool.false_eq_true, if_false]
  repeat' (first | apply ite_ne | (intro hc; cases hc))

/-- the `if let (Some(Literal(last)), Literal(literal)) = (result.last_mut(), &partial_token)` of `str_to_partial_tokens`:
either it matches, or `pushPartial` pushes -/
theorem pushPartial_cases (acc : List PartialToken) (p : PartialToken) :
    (∃ last lit acc', acc = .literal last :: acc' ∧ p = .literal lit) ∨
    (pushPartial acc p = p :: acc ∧ ∀ last lit, (acc.head?, p) = (some (.literal last), .literal lit) → False) := by
  unfold pushPartial
  split
  · exact .inl ⟨_, _, _, rfl, rfl⟩
  · rename_i hno
    refine .inr ⟨rfl, fun last lit h => ?_⟩
    cases acc with
    | nil => cases h
    | cons a acc' => cases h; exact hno _ _ _ rfl rfl

theorem fn_str_to_partial_tokens_agree (s : Str) (fuel : Nat) (h : s.length < fuel) :
    Gen.str_to_partial_tokens fuel s = strToPartialTokens s := by
  -- the specification at the initial state is the Model's function
  refine Rs.Flow.run_loopB_spec _ _ _ (fun st => st.2.length) (fun st => lexNormal st.2 st.1.reverse) fuel ?_ fuel ([], s) h h
  · -- one pass through the loop body, from `result = acc.reverse` and the cursor `cs`
    rintro ⟨result, cs⟩ hlt
    obtain ⟨acc, rfl⟩ : ∃ acc, result = acc.reverse := ⟨result.reverse, by simp⟩
    simp only [List.reverse_reverse]
    rcases cs with _ | ⟨c, cs⟩
    · -- end of input: the loop ends
      simp [lexNormal_nil]
    · have hcs : cs.length < fuel := by simp at hlt; omega
      rw [lexNormal_cons]
      by_cases hq : (c == '"') = true
      · -- `"`: `parse_string_literal` from the next character; the cursor it hands back is shorter
        simp [hq, fn_parse_string_literal_agree cs fuel hcs]
        cases hs : stringLit cs [] with
        | error e => simp
        | ok p =>
          rcases p with ⟨tok, rest⟩
          have : rest.length < cs.length := by have := stringLit_post cs []; rwa [hs] at this
          simp; omega
      · by_cases hsl : (c == '/') = true
        · -- `/`: `try_skip_comment`; a skipped comment leaves a whitespace (`continue`), otherwise the slash is pushed
          have : c = '/' := by simpa using hsl
          subst this
          simp [fn_try_skip_comment_agree cs fuel hcs, fn_char_to_partial_token_agree, charToPartialToken]
          cases hs : skipCommentSpec cs with
          | error e => simp
          | ok p =>
            rcases p with ⟨b, rest⟩
            have : rest.length ≤ cs.length := by have := skipCommentSpec_post cs; rwa [hs] at this
            cases b <;> simp [pushPartial] <;> omega
        · -- any other character: its partial token `p` (not a slash) is pushed
          have hne := charToPartialToken_ne_slash c (by simpa using hsl)
          simp [hq, hsl, fn_char_to_partial_token_agree]
          generalize charToPartialToken c = p at hne ⊢
          rcases pushPartial_cases acc p with ⟨last, lit, acc', rfl, rfl⟩ | ⟨hpush, hno⟩
          · -- a literal after a literal is appended to it
            simp [pushPartial]
          · -- everything else is a new element
            simp [hpush]

/-- the cutoff that `tokenStep` returns: the slice `tokens[cutoff..]` is in range -/
theorem tokenStep_inRange {a : PartialToken} {rest : List PartialToken} {t : Option Token} {k : Nat}
    (h : tokenStep a rest[0]? rest[1]? = .ok (t, k)) : 1 ≤ k ∧ k ≤ 3 ∧ k ≤ rest.length + 1 := by
  rcases Spec.tokenStep_cutoff _ _ _ _ _ h with rfl | ⟨rfl, h2⟩ | ⟨rfl, h2, h3⟩
  · omega
  · rcases rest with _ | _ <;> simp_all
  · rcases rest with _ | ⟨_, _ | _⟩ <;> simp_all

theorem float_attempt (lit : Str) :
    Rs.flatten (Rs.bool_then (Rs.starts_with lit fun c => F64.isDigit c || c == '.') fun _ => Rs.ok (Rs.parse_f64 lit)) =
      if startsLikeNumber lit then F64.parse lit else none := by
  have hs : (Rs.starts_with lit fun c => F64.isDigit c || c == '.') = startsLikeNumber lit := by cases lit <;> eq_refl
  rw [hs]
  cases startsLikeNumber lit
  · rfl
  · simp [Rs.bool_then, Rs.flatten, Rs.parse_f64, Rs.ok, Rs.ofOption]
    cases F64.parse lit <;> eq_refl
theorem plus_or_minus (p : PartialToken) :
    (Rs.eq p PartialToken.minus || Rs.eq p PartialToken.plus) = isPlusOrMinus p := by cases p <;> eq_refl
theorem to_string_partial (p : PartialToken) : Rs.to_string p = p.display := rfl
theorem emap_emap {α β γ : Type} (f : β → γ) (g : α → β) (X : Res α) :
    Except.map f (Except.map g X) = Except.map (fun x => f (g x)) X := by cases X <;> eq_refl
theorem fn_unmatched_partial_token_agree (a : PartialToken) (b : Option PartialToken) :
    Gen.EvalexprError.unmatched_partial_token a b = .unmatchedPartialToken a b := rfl

theorem fn_partial_tokens_to_tokens_agree (ts : List PartialToken) (fuel : Nat) (h : ts.length < fuel) :
    Gen.partial_tokens_to_tokens fuel ts = partialTokensToTokens ts := by
  refine (Rs.Flow.run_loopB_spec _ _ _ (fun st => st.1.length)
    (fun st => (partialTokensToTokens st.1).map (st.2 ++ ·)) fuel ?_ fuel (ts, []) h h).trans ?_
  rotate_left
  · -- the specification at the initial state (nothing emitted yet) is the Model's function
    cases partialTokensToTokens ts <;> simp [Except.map]
  · -- one pass through the loop body, from the remaining partial tokens and the tokens emitted so far
    rintro ⟨tokens, result⟩ hlt
    rcases tokens with _ | ⟨a, rest⟩
    · -- nothing left: the loop ends
      simp [partialTokensToTokens, Except.map]
    · rw [Spec.partialTokensToTokens_cons]
      simp only [Rs.is_empty_def, List.isEmpty_cons, Rs.not_def, Bool.not_false, if_true, Rs.Flow.index_zero,
        Rs.clone_def, Rs.cloned_def, Rs.get_list, List.getElem?_cons_succ, Rs.Flow.val_bind, Rs.Flow.bind_assoc]
      -- the statement `match first { … }` is the Model's `tokenStep`
      rw [Rs.Flow.run_bind_congr (x' := Rs.try (tokenStep a rest[0]? rest[1]?))]
      · -- the rest of the body, run after `tokenStep`: `result.extend(..)`, `tokens = &tokens[cutoff..]`
        cases hs : tokenStep a rest[0]? rest[1]? with
        | error e => rfl
        | ok p =>
          obtain ⟨t, k⟩ := p
          have hk := tokenStep_inRange hs
          obtain ⟨k, rfl⟩ : ∃ j, k = j + 1 := ⟨k - 1, by omega⟩
          simp [hk.2.2, emap_emap]
          omega
      · -- `match first { … }` against `tokenStep`, arm by arm
        generalize rest[0]? = second
        generalize rest[1]? = third
        cases a
        case literal lit =>
          -- an int, a float, a boolean (`rfl` once the three parses are decided); else an identifier …
          simp only [fn_parse_dec_or_hex_agree, Rs.eq_char, float_attempt, Rs.parse_bool, tokenStep, lexWord]
          cases parseDecOrHex lit <;> cases (if startsLikeNumber lit then F64.parse lit else none) <;>
            cases parseBool lit <;> try rfl
          -- … unless `lit ± third` parses as a float (`1e-3` arrives as three partial tokens)
          rcases second with _ | sd <;> rcases third with _ | td <;> try rfl
          simp only [plus_or_minus, Rs.parse_f64, Rs.to_string_str, Rs.push_str_def, to_string_partial, List.append_assoc]
          cases isPlusOrMinus sd <;> cases F64.parse (lit ++ (sd.display ++ td.display)) <;> eq_refl
        -- `token`, `whitespace` do not look ahead; the operator arms look at the constructor of `second` only …
        all_goals dsimp only [tokenStep]
        all_goals rcases second with _ | b <;> (try cases b) <;> try rfl
        -- … and `&&`, `||` at the constructor of `third` (`&&=`, `||=`)
        all_goals rcases third with _ | c <;> (try cases c) <;> eq_refl

theorem fn_tokenize_agree (s : Str) (fuel : Nat) (h : s.length < fuel) : Gen.tokenize fuel s = Evalexpr.tokenize s := by
  unfold Gen.tokenize Evalexpr.tokenize
  rw [fn_str_to_partial_tokens_agree s fuel h]
  cases hs : strToPartialTokens s with
  | error e => rfl
  | ok ps =>
    -- at most one partial token per character
    have hl : ps.length ≤ s.length := Spec.lexNormal_length s [] ps hs
    simp [fn_partial_tokens_to_tokens_agree ps fuel (by omega)]

end Evalexpr.AgreeFn

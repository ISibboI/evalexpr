/-
Proofs/Iterators.lean — property C14. The explicit-stack loop yields what the stack still holds
in pre-order (`collectNodes_eq`), so every iterator is a `filterMap` over `preorderList`, and the
source-order and renaming claims are computations on `occList`. The two claims about evaluation
hold on `Targeted` trees (assignment targets are written identifiers: the trees of expressions and
of sequence levels) by induction on `Targeted`, from one fact per operator (`IterEval`: which
unknown identifier it can report; `IterRename`: it commutes with the renaming).
-/
import EvalexprVerif.Spec.Idents
import EvalexprVerif.Proofs.IterEval
import EvalexprVerif.Proofs.IterRename

namespace Evalexpr.Spec
open Evalexpr

/-- all nodes a stack still has to yield -/
def stackNodes : List (List Node) → List Node
  | [] => []
  | f :: st => preorderList f ++ stackNodes st

def stackSize : List (List Node) → Nat
  | [] => 0
  | f :: st => Node.sizeList f + stackSize st

theorem preorder_eq (n : Node) : preorder n = n :: preorderList n.children := by
  cases n; simp [preorder]

theorem size_eq (n : Node) : n.size = 1 + Node.sizeList n.children := by
  cases n; simp [Node.size]

theorem nodeIterNext_none :
    ∀ st : List (List Node), nodeIterNext st = none → stackNodes st = []
  | [], _ => rfl
  | [] :: st, h => by
    simp only [nodeIterNext] at h
    simp [stackNodes, preorderList, nodeIterNext_none st h]
  | (n :: rest) :: st, h => by simp [nodeIterNext] at h

theorem nodeIterNext_some :
    ∀ (st : List (List Node)) (n : Node) (st' : List (List Node)),
      nodeIterNext st = some (n, st') →
        stackNodes st = n :: stackNodes st' ∧ stackSize st = stackSize st' + 1 ∧ st'.length ≤ st.length + 1
  | [], _, _, h => by simp [nodeIterNext] at h
  | [] :: st, n, st', h => by             -- the top frame is exhausted: pop it
    simp only [nodeIterNext] at h
    have ih := nodeIterNext_some st n st' h
    simp [stackNodes, stackSize, preorderList, Node.sizeList, ih.1, ih.2.1]
    have := ih.2.2; omega
  | (m :: rest) :: st, n, st', h => by    -- yield `m`, push its children
    simp only [nodeIterNext, Option.some.injEq, Prod.mk.injEq] at h
    obtain ⟨rfl, rfl⟩ := h
    simp only [stackNodes, stackSize, preorderList, Node.sizeList, preorder_eq m, size_eq m,
      List.cons_append, List.append_assoc, List.length_cons, true_and]
    omega

theorem collectNodes_eq :
    ∀ (fuel : Nat) (st : List (List Node)), stackSize st < fuel →
      collectNodes fuel st = stackNodes st
  | 0, _, h => by omega
  | fuel + 1, st, h => by
    simp only [collectNodes]
    cases hn : nodeIterNext st with
    | none => simp [nodeIterNext_none st hn]
    | some p =>
      obtain ⟨n, st'⟩ := p
      have := nodeIterNext_some st n st' hn
      simp only [this.1]
      rw [collectNodes_eq fuel st' (by omega)]

theorem C14_preorder (n : Node) : n.iter = preorderList n.children := by
  unfold Node.iter
  rw [collectNodes_eq]
  · simp [stackNodes]
  · simp [stackSize, size_eq n]; omega

theorem operatorIterMutNext_eq :
    ∀ st : List (List Node),
      operatorIterMutNext st = (nodeIterNext st).map (fun p => (p.1.op, p.2))
  | [] => rfl
  | [] :: st => by simp only [operatorIterMutNext, nodeIterNext, operatorIterMutNext_eq st]
  | (n :: rest) :: st => rfl

theorem collectOperators_eq :
    ∀ (fuel : Nat) (st : List (List Node)),
      collectOperators fuel st = (collectNodes fuel st).map (·.op)
  | 0, _ => rfl
  | fuel + 1, st => by
    simp only [collectOperators, collectNodes, operatorIterMutNext_eq]
    cases nodeIterNext st with
    | none => rfl
    | some p => simp [collectOperators_eq fuel]

theorem C14_mut_same (n : Node) : n.iterOperatorsMut = n.iter.map (·.op) :=
  collectOperators_eq _ _

theorem C14_mut_idents (n : Node) (k : IterKind) : n.iterIdentsMut k = n.iterIdents k := by
  unfold Node.iterIdentsMut Node.iterIdents
  rw [C14_mut_same]

theorem filterIdents_eq (k : IterKind) (ops : List Operator) :
    filterIdents k ops = ((ops.filterMap Operator.ident).filter (fun p => k.keeps p.1)).map (·.2) := by
  rw [List.filter_filterMap, List.map_filterMap, filterIdents]
  congr 1; funext o
  cases o.ident with
  | none => rfl
  | some p => cases h : k.keeps p.1 <;> simp [Option.filter, h]

theorem C14_classes (n : Node) (k : IterKind) :
    n.iterIdents k = ((identOccurrences n).filter (fun p => k.keeps p.1)).map (·.2) :=
  filterIdents_eq k _

theorem C14_class_sublist (n : Node) (k : IterKind) :
    (n.iterIdents k).Sublist (n.iterIdents .identifiers) := by
  have all : (identOccurrences n).filter (fun p => IterKind.identifiers.keeps p.1)
      = identOccurrences n := List.filter_eq_self.2 fun _ _ => rfl
  rw [C14_classes, C14_classes n .identifiers, all]
  exact List.filter_sublist.map _

/-- a `filter_map` over the visited nodes that keeps of each operator what `filterIdents k` keeps
is the class iterator `k`; likewise over the operators the mutable iterator yields -/
theorem iterIdents_of (k : IterKind) (n : Node) (f : Node → Option Str)
    (hf : ∀ o cs, f ⟨o, cs⟩ = match o.ident with
      | some (c, id) => if k.keeps c then some id else none
      | none => none) : n.iter.filterMap f = n.iterIdents k := by
  rw [Node.iterIdents, filterIdents, List.filterMap_map]
  congr 1; funext ⟨o, cs⟩; exact hf o cs

theorem iterIdentsMut_of (k : IterKind) (n : Node) (f : Operator → Option Str)
    (hf : ∀ o, f o = match o.ident with
      | some (c, id) => if k.keeps c then some id else none
      | none => none) : n.iterOperatorsMut.filterMap f = n.iterIdentsMut k := by
  rw [Node.iterIdentsMut, filterIdents]
  congr 1; funext o; exact hf o

theorem mem_iterIdents {n : Node} {k : IterKind} {x : Str} :
    x ∈ n.iterIdents k ↔ ∃ c, k.keeps c = true ∧ (c, x) ∈ identOccurrences n := by
  simp [C14_classes, and_comm]

def occList (cs : List Node) : List (IdentClass × Str) :=
  ((preorderList cs).map (·.op)).filterMap Operator.ident

theorem identOccurrences_eq (n : Node) : identOccurrences n = occList n.children := by
  unfold identOccurrences occList
  rw [C14_preorder]

theorem occList_nil : occList [] = [] := rfl

theorem occList_cons (op : Operator) (cs rest : List Node) :
    occList (⟨op, cs⟩ :: rest) = op.ident.toList ++ occList cs ++ occList rest := by
  unfold occList
  simp only [preorderList, preorder, List.cons_append, List.map_cons, List.map_append,
    List.filterMap_cons, List.filterMap_append]
  cases op.ident <;> simp

theorem occList_wrapTree (b : Bool) (n : Node) (rest : List Node) :
    occList (wrapTree b n :: rest) = occList (n :: rest) := by
  cases b
  · rfl
  · obtain ⟨op, cs⟩ := n
    simp [wrapTree, occList_cons, Operator.ident, occList_nil]

theorem binOp_ident (op : BinOp) : op.toOperator.ident = none := by cases op <;> rfl
theorem assignOp_ident (op : AssignOp) : op.toOperator.ident = none := by cases op <;> rfl

theorem occList_toTree (e : Expr) : ∀ rest : List Node,
    occList (toTree e :: rest) = occ e ++ occList rest := by
  induction e with
  | lit _ | var _ =>
    intro rest; simp [toTree, occList_cons, occList_nil, occ, Operator.ident]
  | call _ _ ih | neg _ ih | not _ ih | paren _ ih =>
    intro rest; simp [toTree, occList_cons, occList_wrapTree, occList_nil, occ, Operator.ident, ih]
  | bin op _ _ ihl ihr =>
    intro rest
    simp [toTree, occList_cons, occList_wrapTree, occList_nil, occ, binOp_ident, ihl, ihr]
  | assign op x _ ih =>
    intro rest
    simp [toTree, occList_cons, occList_wrapTree, occList_nil, occ, assignOp_ident, ih,
      show (Operator.varWrite x).ident = some (.write, x) from rfl]

theorem C14_source (e : Expr) : identOccurrences ⟨.rootNode, [toTree e]⟩ = occ e := by
  rw [identOccurrences_eq]
  simp [occList_toTree, occList_nil]

theorem renameWith_ident (k : IterKind) (f : Str → Str) (o : Operator) :
    (o.renameWith k f).ident =
      o.ident.map (fun p => (p.1, if k.keeps p.1 then f p.2 else p.2)) := by
  cases o with
  | varWrite _ | varRead _ | fn _ =>   -- renamed or not, as `k` keeps the class
    simp only [Operator.renameWith]; split <;> simp [Operator.ident, *]
  | _ => rfl

theorem occList_renameList (k : IterKind) (f : Str → Str) (cs : List Node) :
    occList (renameList k f cs) =
      (occList cs).map (fun p => (p.1, if k.keeps p.1 then f p.2 else p.2)) := by
  induction cs using renameList.induct with
  | case1 => rw [renameList]; rfl
  | case2 op cs rest ih₁ ih₂ =>
    rw [renameList, occList_cons, occList_cons, ih₁, ih₂, renameWith_ident, List.map_append,
      List.map_append]
    cases op.ident <;> rfl

/-- the target of every assignment is a written identifier, and written identifiers occur nowhere
else: so the trees of expressions and of sequence levels are built. On other trees both claims
below fail: `"a" += 1` reports the unknown variable `a`, which no iterator lists, and a bare
written identifier evaluates to its (renamed) name. -/
inductive Targeted : Node → Prop
  | assign {op : Operator} {x : Str} {rhs : Node} : Operator.isAssignKind op = true → Targeted rhs →
      Targeted ⟨op, [⟨.varWrite x, []⟩, rhs]⟩
  | other {op : Operator} {cs : List Node} : Operator.isAssignKind op = false → (∀ x, op ≠ .varWrite x) →
      (∀ c ∈ cs, Targeted c) → Targeted ⟨op, cs⟩

theorem Targeted.wrapTree {n : Node} (h : Targeted n) (b : Bool) : Targeted (wrapTree b n) := by
  cases b
  · exact h
  · exact .other rfl nofun (List.forall_mem_singleton.2 h)

theorem targeted_toTree : ∀ e : Expr, Targeted (toTree e)
  | .lit _ | .var _ => .other rfl nofun nofun
  | .call _ e | .neg e | .not e =>
    .other rfl nofun (List.forall_mem_singleton.2 ((targeted_toTree e).wrapTree _))
  | .bin op l r =>
    .other (by cases op <;> rfl) (by cases op <;> exact nofun)
      (List.forall_mem_cons.2 ⟨(targeted_toTree l).wrapTree _,
        List.forall_mem_singleton.2 ((targeted_toTree r).wrapTree _)⟩)
  | .assign op _ rhs => .assign (by cases op <;> rfl) ((targeted_toTree rhs).wrapTree _)
  | .paren e => .other rfl nofun (List.forall_mem_singleton.2 (targeted_toTree e))

theorem targeted_root (e : Expr) : Targeted ⟨.rootNode, [toTree e]⟩ :=
  .other rfl nofun (List.forall_mem_singleton.2 (targeted_toTree e))

theorem occList_singleton (n : Node) : occList [n] = n.op.ident.toList ++ occList n.children := by
  obtain ⟨op, cs⟩ := n
  rw [occList_cons, occList_nil, List.append_nil]

theorem occList_cons_append (c : Node) (cs : List Node) :
    occList (c :: cs) = occList [c] ++ occList cs := by
  obtain ⟨op, ks⟩ := c
  rw [occList_singleton, occList_cons]

theorem unk_children : ∀ cs : List Node,
    (∀ c ∈ cs, ∀ s, NoFabricate s.ctx → Unk (occList [c]) (c.evalMut s)) →
      ∀ s, NoFabricate s.ctx → Unk (occList cs) (evalMutList cs s)
  | [], _, s, _ => by rw [evalMutList]; exact .of_clean trivial
  | c :: cs, h, s, hnf => by
    rw [evalMutList_bind, occList_cons_append]
    refine .bindE ((h c (.head _) s hnf).mono (List.subset_append_left _ _)) fun v => ?_
    refine .bindE ?_ fun vs => .of_clean trivial
    exact (unk_children cs (fun d hd => h d (.tail _ hd)) _ (hnf.evalMut c)).mono
      (List.subset_append_right _ _)

theorem Targeted.unk {n : Node} (h : Targeted n) :
    ∀ s, NoFabricate s.ctx → Unk (occList [n]) (n.evalMut s) := by
  induction h with
  | @assign op x rhs ha _ ih =>   -- `x ∘= rhs`: first `rhs`, then the assignment to `x`
    intro s hnf
    rw [evalMut_assignNode, occList_singleton, ident_of_isAssignOp ha,
      show occList [⟨.varWrite x, []⟩, rhs] = (.write, x) :: occList [rhs] from occList_cons ..]
    refine .bindE ((ih s hnf).mono (List.subset_cons_self ..)) fun v => ?_
    exact (assign_unk ha x v _).mono (List.cons_subset_cons _ (List.nil_subset _))
  | @other op cs ha _ _ ih =>     -- any other node: its children, then its own operator
    intro s hnf
    rw [evalMut_node, occList_singleton]
    refine .bindE ((unk_children cs ih s hnf).mono (List.subset_append_right _ _)) fun args => ?_
    exact (op_unk (.of_userFn (list_evalMut_presFn cs s).1 hnf) ha args).mono
      (List.subset_append_left _ _)

theorem Targeted.unk_occurrences {n : Node} (ht : Targeted n) (hop : n.op.ident = none) {s : St}
    (hnf : NoFabricate s.ctx) : Unk (identOccurrences n) (n.evalMut s) := by
  have := ht.unk s hnf
  rwa [occList_singleton, hop, ← identOccurrences_eq] at this

theorem Targeted.unknown_var {n : Node} (ht : Targeted n) (hop : n.op.ident = none) {s : St}
    (hnf : NoFabricate s.ctx) {x : Str}
    (h : (n.evalMut s).1 = .error (.variableIdentifierNotFound x)) : x ∈ n.iterIdents .variable :=
  mem_iterIdents.2 <| ((ht.unk_occurrences hop hnf).1 x h).elim (⟨.read, rfl, ·⟩) (⟨.write, rfl, ·⟩)

theorem Targeted.unknown_fn {n : Node} (ht : Targeted n) (hop : n.op.ident = none) {s : St}
    (hnf : NoFabricate s.ctx) {f : Str}
    (h : (n.evalMut s).1 = .error (.functionIdentifierNotFound f)) : f ∈ n.iterIdents .function :=
  mem_iterIdents.2 ⟨.function, rfl, (ht.unk_occurrences hop hnf).2 f h⟩

theorem C14_unknown_var (e : Expr) (s : St) (x : Str) (hnf : NoFabricate s.ctx)
    (h : ((Node.mk .rootNode [toTree e]).evalMut s).1 = .error (.variableIdentifierNotFound x)) :
    x ∈ (Node.mk .rootNode [toTree e]).iterIdents .variable :=
  (targeted_root e).unknown_var rfl hnf h

theorem C14_unknown_fn (e : Expr) (s : St) (f : Str) (hnf : NoFabricate s.ctx)
    (h : ((Node.mk .rootNode [toTree e]).evalMut s).1 = .error (.functionIdentifierNotFound f)) :
    f ∈ (Node.mk .rootNode [toTree e]).iterIdents .function :=
  (targeted_root e).unknown_fn rfl hnf h

theorem rn_children {r : Str → Str} : ∀ cs : List Node,
    (∀ c ∈ cs, ∀ s, FnStable r s.ctx →
      (rnNode .variable r c).evalMut (rnSt r s) = rnOut r (c.evalMut s)) →
    ∀ s, FnStable r s.ctx →
      evalMutList (renameList .variable r cs) (rnSt r s) = rnOut r (evalMutList cs s)
  | [], _, s, _ => by rw [renameList_nil, evalMutList, evalMutList]; rfl
  | c :: cs, hc, s, hF => by
    rw [renameList_cons, evalMutList_bind, evalMutList_bind, hc c (.head _) s hF]
    refine rnOut_bindE fun v => ?_
    rw [rn_children cs (fun d hd => hc d (.tail _ hd)) _ (hF.of_sameFns (evalMut_sameFns.1 c s))]
    exact rnOut_bindE fun vs => rfl

/-- evaluating the renamed tree in the renamed state gives the renamed outcome, in every context -/
theorem Targeted.rn {r : Str → Str} (hinj : Function.Injective r) {n : Node} (ht : Targeted n) :
    ∀ s, FnStable r s.ctx → (rnNode .variable r n).evalMut (rnSt r s) = rnOut r (n.evalMut s) := by
  induction ht with
  | @assign op x rhs ha _ ih =>   -- `x ∘= rhs` becomes `r x ∘= rhs'`: first the right-hand sides
    intro s hF
    rw [show rnNode .variable r ⟨op, [⟨.varWrite x, []⟩, rhs]⟩ =
        ⟨op, [⟨.varWrite (r x), []⟩, rnNode .variable r rhs]⟩ by
      simp only [rnNode, renameList_cons, renameList_nil, renameWith_variable_varWrite,
        renameWith_of_ident_none (ident_of_isAssignOp ha)],
      evalMut_assignNode, evalMut_assignNode, ih s hF]
    exact rnOut_bindE fun v => rn_assign hinj ha x v _
  | @other op cs ha hw _ ih =>    -- any other node: the children, then the (renamed) operator
    intro s hF
    rw [show rnNode .variable r ⟨op, cs⟩ = ⟨op.renameWith .variable r, renameList .variable r cs⟩
      from rfl, evalMut_node, evalMut_node, rn_children cs ih s hF]
    exact rnOut_bindE fun args =>
      rn_op hinj (hF.of_sameFns (evalMut_sameFns.2 cs s)) ha hw args

theorem renameDesc_eq_rnNode {n : Node} (k : IterKind) (f : Str → Str) (hop : n.op.ident = none) :
    n.renameDesc k f = rnNode k f n := by
  obtain ⟨op, cs⟩ := n
  rw [rnNode, renameWith_of_ident_none hop, Node.renameDesc]

/-- consistently renaming the variables (injectively) in the tree and in the context does not
change the result, provided the answers of the user functions are not themselves affected by the
renaming (`FnStable`: `renameRes r (f arg) = f arg` for every function of the context). Without
`hst` this is false: with `h.funs = [("f", fun _ => .error (.variableIdentifierNotFound "a"))]`,
the tree of `f(1)` and `r s = 'z' :: s`, both runs answer `VariableIdentifierNotFound("a")`, but the
claimed result of the renamed run is `VariableIdentifierNotFound("za")`
(`C14_rename_unrestricted_false`). -/
theorem Targeted.rename {n : Node} (ht : Targeted n) (hop : n.op.ident = none) (r : Str → Str)
    (hinj : Function.Injective r) (h : HashMapCtx) (log : List (Str × Value))
    (hst : FnStable r (.hashMap h)) :
    let out := n.evalMut ⟨.hashMap h, log⟩
    let out' := (n.renameDesc .variable r).evalMut ⟨.hashMap (renameVars r h), log⟩
    out'.1 = renameRes r out.1 ∧ out'.2.log = out.2.log ∧
      (∃ h₁, out.2.ctx = .hashMap h₁ ∧ out'.2.ctx = .hashMap (renameVars r h₁)) := by
  rw [renameDesc_eq_rnNode _ _ hop]
  intro out out'
  have e : out' = rnOut r out := ht.rn hinj ⟨.hashMap h, log⟩ hst
  obtain ⟨h₁, hh⟩ := evalMut_hashMap n (s := ⟨.hashMap h, log⟩) ⟨h, rfl⟩
  rw [e, renameRes_eq]
  exact ⟨rfl, rfl, h₁, hh, by rw [rnOut, rnSt, show out.2.ctx = _ from hh]; rfl⟩

def cexH : HashMapCtx :=
  { vars := [], funs := [(cl!"f", fun _ => .error (.variableIdentifierNotFound cl!"a"))], noBuiltins := false }
def cexE : Expr := .call cl!"f" (.lit (.int 1))
def cexR : Str → Str := fun s => 'z' :: s

theorem C14_rename_unrestricted_false :
    ¬ (∀ (e : Expr) (r : Str → Str) (_ : Function.Injective r) (h : HashMapCtx) (log : List (Str × Value)),
      let t : Node := ⟨.rootNode, [toTree e]⟩
      let out := t.evalMut ⟨.hashMap h, log⟩
      let out' := (t.renameDesc .variable r).evalMut ⟨.hashMap (renameVars r h), log⟩
      out'.1 = renameRes r out.1 ∧ out'.2.log = out.2.log ∧
        (∃ h₁, out.2.ctx = .hashMap h₁ ∧ out'.2.ctx = .hashMap (renameVars r h₁))) := by
  intro hall
  have h1 := (hall cexE cexR (fun _ _ h => (List.cons.inj h).2) cexH []).1
  have e1 : ((Node.mk .rootNode [toTree cexE]).evalMut ⟨.hashMap cexH, []⟩).1
      = .error (.variableIdentifierNotFound cl!"a") := rfl
  have e2 : (((Node.mk .rootNode [toTree cexE]).renameDesc .variable cexR).evalMut
      ⟨.hashMap (renameVars cexR cexH), []⟩).1 = .error (.variableIdentifierNotFound cl!"a") := by
    have : (Node.mk .rootNode [toTree cexE]).renameDesc .variable cexR
        = Node.mk .rootNode [toTree cexE] := by
      simp [cexE, toTree, wrapTree, needsParenArg, Expr.headPrec,
        Node.renameDesc, renameList_cons, renameList_nil, rnNode, Operator.renameWith,
        IterKind.keeps]
    rw [this]
    rfl
  simp only [e1, e2, renameRes, Err.renameVar, cexR] at h1
  simp at h1

theorem C14_rename (e : Expr) (r : Str → Str) (hinj : Function.Injective r) (h : HashMapCtx)
    (log : List (Str × Value)) (hnf : NoFabricate (.hashMap h)) :
    let t : Node := ⟨.rootNode, [toTree e]⟩
    let out := t.evalMut ⟨.hashMap h, log⟩
    let out' := (t.renameDesc .variable r).evalMut ⟨.hashMap (renameVars r h), log⟩
    out'.1 = renameRes r out.1 ∧ out'.2.log = out.2.log ∧
      (∃ h₁, out.2.ctx = .hashMap h₁ ∧ out'.2.ctx = .hashMap (renameVars r h₁)) :=
  (targeted_root e).rename rfl r hinj h log (.of_noFabricate hnf)

end Evalexpr.Spec

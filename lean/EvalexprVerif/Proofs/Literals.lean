/-
Proofs/Literals.lean — C06: the lexer's word classification against the literal grammar of
`Spec/Literals.lean`: decimal / hexadecimal integers, booleans, floats, identifiers, the value of a
float literal, and the two string-literal errors. What a word tokenizes to between other tokens is
the round trip (`LexRoundtrip`), which rests on this file.
-/
import EvalexprVerif.Proofs.LitFloatParse

namespace Evalexpr.Spec
open Evalexpr

/-- the range check both integer parsers end with: a natural number as an `i64`, if it is one -/
def int64OfNat? (v : Nat) : Option Int64 := if v < 2 ^ 63 then some (Int64.ofNat v) else none

theorem parseDec_unsigned (w : Str) (h : ∀ c ∈ w, ¬ isSignChar c = true) :
    F64.parseDec w =
      if w.isEmpty || !w.all F64.isDigit then none else int64OfNat? (F64.digitsVal w) := by
  unfold F64.parseDec
  split
  rename_i heq
  cases (signSplit_unsigned w h).symm.trans heq
  simp only [Int64.ofInt_eq_ofNat]
  rfl

theorem parseHex_unsigned (w : Str) (h : ∀ c ∈ w, ¬ isSignChar c = true) :
    F64.parseHex w = if w.isEmpty then none else (F64.hexVal w 0).bind int64OfNat? := by
  unfold F64.parseHex
  split
  rename_i heq
  cases (signSplit_unsigned w h).symm.trans heq
  simp only [Int64.ofInt_eq_ofNat]
  cases F64.hexVal w 0 <;> rfl

theorem hexDigitVal_eq (c : Char) :
    F64.hexDigitVal c = if isHexDigit c then some (hexDigitValue c) else none := by
  unfold F64.hexDigitVal hexDigitValue isHexDigit
  by_cases h1 : ('0' ≤ c && c ≤ '9') = true
  · simp only [h1, Bool.true_or, ↓reduceIte]
  · by_cases h2 : ('a' ≤ c && c ≤ 'f') = true
    · simp only [h1, h2, Bool.true_or, Bool.or_true, ↓reduceIte]; rfl
    · by_cases h3 : ('A' ≤ c && c ≤ 'F') = true
      · simp only [h1, h2, h3, Bool.or_true, ↓reduceIte]; rfl
      · simp only [h1, h2, h3, Bool.or_false, Bool.false_eq_true, ↓reduceIte]

theorem hexVal_eq (ds : Str) (acc : Nat) :
    F64.hexVal ds acc =
      if ds.all isHexDigit then some (ds.foldl (fun a c => a * 16 + hexDigitValue c) acc) else none := by
  induction ds generalizing acc with
  | nil => rfl
  | cons c ds ih =>
    rw [F64.hexVal, hexDigitVal_eq, List.all_cons, List.foldl_cons]
    cases isHexDigit c
    · rfl
    · exact ih _

theorem not_isSignChar_of_isHexDigit (c : Char) (h : isHexDigit c = true) :
    ¬ isSignChar c = true := by
  intro hs
  rcases (isSignChar_iff c).1 hs with rfl | rfl <;> revert h <;> decide

theorem int64_ofInt_toInt (n : Nat) (h : n < 2 ^ 63) :
    Int64.ofInt (n : Int) = Int64.ofNat n ∧ (Int64.ofNat n).toInt = n :=
  ⟨Int64.ofInt_eq_ofNat, Int64.toInt_ofNat_of_lt h⟩

/-- `parse_dec_or_hex` on a word without signs, in the grammar's terms: the value of a decimal or
of a hexadecimal literal if it is in range, nothing otherwise -/
theorem parseDecOrHex_eq (w : Str) (hs : ∀ c ∈ w, ¬ isSignChar c = true) :
    parseDecOrHex w =
      if isDecLit w then int64OfNat? (decValue w)
      else if isHexLit w then int64OfNat? (hexValue (w.drop 2)) else none := by
  unfold parseDecOrHex
  split
  · -- `0x…` is no decimal literal; `from_str_radix` on what follows
    rename_i ds
    rw [parseHex_unsigned ds fun c hc => hs c (by simp [hc]), hexVal_eq,
      show isDecLit ('0' :: 'x' :: ds) = false from rfl]
    show _ = if (!ds.isEmpty && ds.all isHexDigit) = true then int64OfNat? (hexValue ds) else none
    cases ds.isEmpty <;> cases ds.all isHexDigit <;> rfl
  · -- anything else is no hexadecimal literal; `from_str`
    rename_i h0x
    have hx : isHexLit w = false := by
      unfold isHexLit
      split
      · exact absurd rfl (h0x _)
      · rfl
    rw [parseDec_unsigned w hs, hx]
    show _ = if (!w.isEmpty && w.all F64.isDigit) = true then int64OfNat? (F64.digitsVal w) else _
    cases w.isEmpty <;> cases w.all F64.isDigit <;> rfl

/-- a decimal literal within the signed 64-bit range denotes exactly that integer -/
theorem C06_dec (w : Str) (h : isDecLit w = true) (hv : decValue w < 2 ^ 63) :
    lexWord w = some (.int (Int64.ofNat (decValue w))) ∧
      (Int64.ofNat (decValue w)).toInt = decValue w := by
  refine ⟨?_, Int64.toInt_ofNat_of_lt hv⟩
  have hall := List.all_eq_true.1 ((isDigits_iff w).1 h).2
  rw [lexWord, parseDecOrHex_eq w fun c hc => not_isSignChar_of_isDigit c (hall c hc), h, if_pos rfl,
    int64OfNat?, if_pos hv]

/-- a `0x` hexadecimal literal within the signed 64-bit range denotes exactly that integer -/
theorem C06_hex (ds : Str) (h : isHexLit ('0' :: 'x' :: ds) = true) (hv : hexValue ds < 2 ^ 63) :
    lexWord ('0' :: 'x' :: ds) = some (.int (Int64.ofNat (hexValue ds))) ∧
      (Int64.ofNat (hexValue ds)).toInt = hexValue ds := by
  refine ⟨?_, Int64.toInt_ofNat_of_lt hv⟩
  have hd : ∀ c ∈ ds, isHexDigit c = true :=
    List.all_eq_true.1 (Bool.and_eq_true_iff.1 h).2
  have hs : ∀ c ∈ '0' :: 'x' :: ds, ¬ isSignChar c = true := by
    simp only [List.forall_mem_cons]
    exact ⟨by decide, by decide, fun c hc => not_isSignChar_of_isHexDigit c (hd c hc)⟩
  rw [lexWord, parseDecOrHex_eq _ hs, show isDecLit ('0' :: 'x' :: ds) = false from rfl,
    if_neg Bool.false_ne_true, h, if_pos rfl]
  show (match int64OfNat? (hexValue ds) with | some i => _ | none => _) = _
  rw [int64OfNat?, if_pos hv]

theorem C06_bool :
    lexWord cl!"true" = some (.boolean true) ∧ lexWord cl!"false" = some (.boolean false) :=
  ⟨rfl, rfl⟩

theorem isHexLit_x (w : Str) (h : isHexLit w = true) : 'x' ∈ w := by
  unfold isHexLit at h
  split at h
  · simp
  · cases h

theorem not_isHexLit_of_numChars (w : Str)
    (h : ∀ c ∈ w, (F64.isDigit c = true ∨ c = '.') ∨ c = 'e' ∨ c = 'E') : isHexLit w = false :=
  Bool.eq_false_iff.2 fun hx => absurd (h 'x' (isHexLit_x w hx)) (by decide)

/-- a float literal (single word, unsigned exponent) that is not an in-range decimal integer is the
float `F64.parse` assigns to it, and `F64.parse` accepts it -/
theorem C06_float (w : Str) (h : isFloatLit w = true)
    (hnot : ¬ (isDecLit w = true ∧ decValue w < 2 ^ 63)) :
    ∃ f, F64.parse w = some f ∧ lexWord w = some (.float f) := by
  obtain ⟨b, hb⟩ := parseBits_isFloatLit w h
  have hp : F64.parse w = some (Float.ofBits b) := by rw [F64.parse, hb]; rfl
  refine ⟨Float.ofBits b, hp, ?_⟩
  have h1 : parseDecOrHex w = none := by
    rw [parseDecOrHex_eq w fun c hc => not_isSignChar_of_numChar c (isFloatLit_chars w h c hc),
      not_isHexLit_of_numChars w (isFloatLit_chars w h)]
    by_cases hd : isDecLit w = true
    · rw [if_pos hd, int64OfNat?, if_neg fun hv => hnot ⟨hd, hv⟩]
    · rw [if_neg hd]; rfl
  simp only [lexWord, h1, startsLikeNumber_isFloatLit w h, ↓reduceIte, hp]

/-- the exponent sign `+` may be omitted: `<mantissa>e<digits>` and `<mantissa>e+<digits>` are the
same float -/
theorem C06_float_value (m ex : Str) (hm : isMantissa m = true) (hex : isDigits ex = true) (e : Char)
    (he : e = 'e' ∨ e = 'E') :
    F64.parseBits (m ++ e :: ex) = F64.parseBits (m ++ e :: '+' :: ex) := by
  rw [parseBits_exp m ex e hm he hex, parseBits_exp_signed m ex e '+' hm he (.inl rfl) hex]; rfl

/-- every other word is an identifier: a word that is not a decimal / hexadecimal / float literal
nor a boolean is not classified as a literal -/
theorem C06_word (w : Str) (hw : isWord w = true) (h1 : isDecLit w = false) (h2 : isHexLit w = false)
    (h3 : isFloatLit w = false) (h4 : w ≠ cl!"true") (h5 : w ≠ cl!"false") :
    lexWord w = none := by
  have hs := not_isSignChar_of_isWord w hw
  have hi : parseDecOrHex w = none := by rw [parseDecOrHex_eq w hs, h1, h2]; rfl
  have hf : (if startsLikeNumber w then F64.parse w else none) = none := by
    split
    · rename_i hn
      apply Classical.byContradiction
      intro hne
      have := isFloatLit_of_parse w hs hn hne
      rw [h3] at this; cases this
    · rfl
  simp [lexWord, hi, hf, parseBool, h4, h5]

theorem isWhitespace_of_isDigit (c : Char) (h : F64.isDigit c = true) : isWhitespace c = false := by
  rw [isDigit_iff] at h
  cases hw : isWhitespace c
  · rfl
  · exfalso
    simp only [isWhitespace, Bool.or_eq_true, Bool.and_eq_true, decide_eq_true_eq, beq_iff_eq] at hw
    omega

theorem isWordChar_of_isDigit (c : Char) (h : F64.isDigit c = true) : isWordChar c = true := by
  refine (isWordChar_iff c).2 ⟨fun hm => ?_, isWhitespace_of_isDigit c h, ne_of_isDigit c _ h (by decide)⟩
  have := List.all_eq_true.1 (by decide : specialChars.all (fun d => !F64.isDigit d) = true) c hm
  simp [h] at this

theorem isWordChar_of_digit_or_dot (c : Char) (h : F64.isDigit c = true ∨ c = '.') :
    isWordChar c = true := by
  rcases h with h | rfl
  · exact isWordChar_of_isDigit c h
  · decide

theorem isWord_of_isDigits (ex : Str) (h : isDigits ex = true) : isWord ex = true := by
  obtain ⟨hne, hall⟩ := (isDigits_iff ex).1 h
  simp only [isWord, List.isEmpty_eq_false_iff.2 hne, Bool.not_false, Bool.true_and, List.all_eq_true]
  exact fun c hc => isWordChar_of_isDigit c (List.all_eq_true.1 hall c hc)

theorem mantissaE_word (m : Str) (e : Char) (hm : isMantissa m = true) (he : e = 'e' ∨ e = 'E') :
    isWord (m ++ [e]) = true ∧ lexWord (m ++ [e]) = none := by
  have hn := startsLikeNumber_mantissa m [e] hm
  have hchars : ∀ c ∈ m ++ [e], (F64.isDigit c = true ∨ c = '.') ∨ c = 'e' ∨ c = 'E' := by
    intro c hc
    simp only [List.mem_append, List.mem_singleton] at hc
    rcases hc with hc | rfl
    · exact .inl (mantissa_chars m hm c hc)
    · exact .inr he
  have hw : isWord (m ++ [e]) = true := by
    have : (m ++ [e]).isEmpty = false := by cases m <;> rfl
    simp only [isWord, this, Bool.not_false, Bool.true_and, List.all_eq_true]
    intro c hc
    rcases hchars c hc with h | rfl | rfl
    · exact isWordChar_of_digit_or_dot c h
    all_goals decide
  refine ⟨hw, C06_word _ hw ?_ (not_isHexLit_of_numChars _ hchars) ?_ ?_ ?_⟩
  · -- no decimal literal: `e` is no digit
    have hned : F64.isDigit e = false := by rcases he with rfl | rfl <;> decide
    simp [isDecLit, isDigits, hned]
  · -- no float literal: no digits after the `e`
    unfold isFloatLit
    rw [splitExp_some m [] e (notE_of_isMantissa m hm) he]
    simp [isDigits]
  -- `true` and `false` do not start like a number
  · exact fun h => by rw [h] at hn; cases hn
  · exact fun h => by rw [h] at hn; cases hn

/-- an escape other than `\"` and `\\` inside a string literal is an error -/
theorem C06_bad_escape (u v : Str) (c : Char) (hc : c ≠ '"' ∧ c ≠ '\\') :
    tokenize ('"' :: escape u ++ '\\' :: c :: v) = .error (.illegalEscapeSequence ['\\', c]) := by
  have e1 : ('\\' == '"') = false := by decide
  have : strToPartialTokens ('"' :: escape u ++ '\\' :: c :: v) =
      .error (.illegalEscapeSequence ['\\', c]) := by
    rw [strToPartialTokens, List.cons_append, lexNormal_cons, if_pos (beq_self_eq_true _), stringLit_escape,
      stringLit.eq_3]
    simp [e1, hc.1, hc.2]
  simp only [tokenize, this]

/-- a missing closing quote is an error -/
theorem C06_unterminated (u : Str) :
    tokenize ('"' :: escape u) = .error .unmatchedDoubleQuote := by
  have : strToPartialTokens ('"' :: escape u) = .error .unmatchedDoubleQuote := by
    have := stringLit_escape u [] []
    rw [List.append_nil] at this
    rw [strToPartialTokens, lexNormal_cons, if_pos (beq_self_eq_true _), this, stringLit.eq_1]
  simp only [tokenize, this]

theorem roundRat_zero (d : Nat) : F64.roundRat 0 d = 0 := by
  simp [F64.roundRat]

/-- the rational `m · 10^e` as numerator and denominator (as in `floatLitValue`) -/
def pow10Rat (m : Nat) (e : Int) : Nat × Nat :=
  if e ≥ 0 then (m * 10 ^ e.toNat, 1) else (m, 10 ^ (-e).toNat)

/-- outside the guard band of `parseMagnitude` (or at zero), `magOf` is `roundRat` of the exact
rational value -/
theorem magOf_eq_roundRat (digits : Str) (fplen : Nat) (e0 : Int)
    (hg : F64.digitsVal digits = 0 ∨
      (-400 ≤ e0 - fplen + F64.decLen (F64.digitsVal digits) ∧
        e0 - fplen + F64.decLen (F64.digitsVal digits) ≤ 400)) :
    magOf digits fplen e0 =
      F64.roundRat (pow10Rat (F64.digitsVal digits) (e0 - fplen)).1
        (pow10Rat (F64.digitsVal digits) (e0 - fplen)).2 := by
  unfold magOf pow10Rat
  simp only []
  by_cases hz : F64.digitsVal digits = 0
  · simp only [hz, beq_self_eq_true, ↓reduceIte, Nat.zero_mul]
    split <;> simp only [roundRat_zero]
  · have hb : (F64.digitsVal digits == 0) = false := by simp [hz]
    rcases hg with hg | ⟨hlo, hhi⟩
    · exact absurd hg hz
    · simp only [hb, Bool.false_eq_true, ↓reduceIte]
      rw [if_neg (by omega), if_neg (by omega)]
      split <;> rfl

/-- the guard of `F64.parseMagnitude`, on the literal: the mantissa digits are all zero, or the
decimal order of magnitude lies within `[-400, 400]` -/
def inGuardBand (m : Str) (expNeg : Bool) (ex : Str) : Prop :=
  let ip := m.takeWhile F64.isDigit
  let fp := (m.dropWhile F64.isDigit).drop 1
  let mv := decValue (ip ++ fp)
  let e10 : Int := (if expNeg then -(decValue ex : Int) else decValue ex) - fp.length
  mv = 0 ∨ (-400 ≤ e10 + F64.decLen mv ∧ e10 + F64.decLen mv ≤ 400)

/-- the float a literal `<mantissa>e<digits>` denotes is the correctly rounded (`roundRat`: nearest,
ties to even) value of the literal's exact rational value `floatLitValue` -/
theorem C06_float_roundRat (m ex : Str) (hm : isMantissa m = true) (hex : isDigits ex = true)
    (e : Char) (he : e = 'e' ∨ e = 'E') (hg : inGuardBand m false ex) :
    F64.parseBits (m ++ e :: ex) =
      some (F64.roundRat (floatLitValue m false ex).1 (floatLitValue m false ex).2) := by
  rw [parseBits_exp m ex e hm he hex,
    magOf_eq_roundRat (mantDigits m) (mantFracLen m) (decValue ex) hg]
  rfl

/-- the same with a signed exponent -/
theorem C06_float_roundRat_signed (m ex : Str) (hm : isMantissa m = true) (hex : isDigits ex = true)
    (e s : Char) (he : e = 'e' ∨ e = 'E') (hs : s = '+' ∨ s = '-')
    (hg : inGuardBand m (s == '-') ex) :
    F64.parseBits (m ++ e :: s :: ex) =
      some (F64.roundRat (floatLitValue m (s == '-') ex).1 (floatLitValue m (s == '-') ex).2) := by
  rw [parseBits_exp_signed m ex e s hm he hs hex,
    magOf_eq_roundRat (mantDigits m) (mantFracLen m) _ hg]
  rfl

/-- the same in positional notation (no exponent) -/
theorem C06_float_roundRat_plain (m : Str) (hm : isMantissa m = true) (hg : inGuardBand m false []) :
    F64.parseBits m =
      some (F64.roundRat (floatLitValue m false []).1 (floatLitValue m false []).2) := by
  rw [parseBits_plain m hm, magOf_eq_roundRat (mantDigits m) (mantFracLen m) 0 hg]
  rfl

end Evalexpr.Spec

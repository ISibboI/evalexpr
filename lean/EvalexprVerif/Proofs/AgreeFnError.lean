/-
Proofs/AgreeFnError.lean — the functions of src/error/mod.rs translated on this run
(`Generated/FnError.lean`, by /verif/translate_fn.py) equal the Model's definitions, for all inputs.
-/
import EvalexprVerif.Generated.FnError
import EvalexprVerif.Translate.Attr

namespace Evalexpr.AgreeFn
open Evalexpr

theorem fn_wrong_operator_argument_amount_agree (actual expected : Nat) :
    Gen.EvalexprError.wrong_operator_argument_amount actual expected = wrongArgs expected actual := rfl
theorem fn_expected_string_agree (v : Value) : Gen.EvalexprError.expected_string v = .expectedString v := rfl
theorem fn_expected_int_agree (v : Value) : Gen.EvalexprError.expected_int v = .expectedInt v := rfl
theorem fn_expected_float_agree (v : Value) : Gen.EvalexprError.expected_float v = .expectedFloat v := rfl
theorem fn_expected_number_agree (v : Value) : Gen.EvalexprError.expected_number v = .expectedNumber v := rfl
theorem fn_expected_number_or_string_agree (v : Value) :
    Gen.EvalexprError.expected_number_or_string v = .expectedNumberOrString v := rfl
theorem fn_expected_boolean_agree (v : Value) : Gen.EvalexprError.expected_boolean v = .expectedBoolean v := rfl
theorem fn_expected_tuple_agree (v : Value) : Gen.EvalexprError.expected_tuple v = .expectedTuple v := rfl
theorem fn_expected_fixed_len_tuple_agree (n : Nat) (v : Value) :
    Gen.EvalexprError.expected_fixed_len_tuple n v = .expectedFixedLengthTuple n v := rfl
theorem fn_expected_empty_agree (v : Value) : Gen.EvalexprError.expected_empty v = .expectedEmpty v := rfl
theorem fn_wrong_type_combination_agree (op : Operator) (ts : List ValueType) :
    Gen.EvalexprError.wrong_type_combination op ts = .wrongTypeCombination op ts := rfl

theorem fn_addition_error_agree (a b : Value) : Gen.EvalexprError.addition_error a b = .additionError a b := rfl
theorem fn_subtraction_error_agree (a b : Value) : Gen.EvalexprError.subtraction_error a b = .subtractionError a b := rfl
theorem fn_negation_error_agree (a : Value) : Gen.EvalexprError.negation_error a = .negationError a := rfl
theorem fn_multiplication_error_agree (a b : Value) :
    Gen.EvalexprError.multiplication_error a b = .multiplicationError a b := rfl
theorem fn_division_error_agree (a b : Value) : Gen.EvalexprError.division_error a b = .divisionError a b := rfl
theorem fn_modulation_error_agree (a b : Value) : Gen.EvalexprError.modulation_error a b = .modulationError a b := rfl

theorem fn_type_error_agree (v : Value) (ts : List ValueType) : Gen.EvalexprError.type_error v ts = .typeError ts v := rfl
theorem fn_wrong_function_argument_amount_range_agree (actual lo hi : Nat) :
    Gen.EvalexprError.wrong_function_argument_amount_range actual ⟨lo, hi⟩ = .wrongFunctionArgumentAmount lo hi actual := rfl
theorem fn_expected_ranged_len_tuple_agree (lo hi : Nat) (v : Value) :
    Gen.EvalexprError.expected_ranged_len_tuple ⟨lo, hi⟩ v = .expectedRangedLengthTuple lo hi v := rfl

theorem fn_expected_type_agree (expected actual : Value) :
    Gen.EvalexprError.expected_type expected actual = Err.expectedType expected actual := by cases expected <;> eq_refl

/-- `expect_operator_argument_amount`: the Model inlines this check as a match on the shape of the
argument list; this is its meaning as a function. -/
theorem fn_expect_operator_argument_amount_agree (actual expected : Nat) :
    Gen.expect_operator_argument_amount actual expected =
      if actual == expected then .ok () else .error (wrongArgs expected actual) := rfl

theorem fn_expect_number_or_string_agree (v : Value) :
    Gen.expect_number_or_string v = expectNumberOrString v := by cases v <;> eq_refl

attribute [rs_agree] fn_wrong_operator_argument_amount_agree fn_expected_string_agree fn_expected_int_agree
  fn_expected_float_agree fn_expected_number_agree fn_expected_number_or_string_agree fn_expected_boolean_agree
  fn_expected_tuple_agree fn_expected_fixed_len_tuple_agree fn_expected_empty_agree fn_wrong_type_combination_agree
  fn_type_error_agree fn_expected_type_agree fn_expect_operator_argument_amount_agree fn_expect_number_or_string_agree

end Evalexpr.AgreeFn

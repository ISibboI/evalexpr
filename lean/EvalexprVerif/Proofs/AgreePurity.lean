/- Proofs/AgreePurity.lean — the scan of the library code finds no impure site (statics, interior mutability, locks, …),
and the crate forbids `unsafe`. -/
import EvalexprVerif.Generated.Purity

namespace Evalexpr.Agree


theorem impureSites_agree : Generated.impureSites = [] := rfl
theorem crateAttrs_forbid_unsafe : "forbid ( unsafe_code )" ∈ Generated.crateAttrs := by decide +kernel

end Evalexpr.Agree

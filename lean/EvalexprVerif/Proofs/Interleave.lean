/-
Proofs/Interleave.lean — C15 at the granularity of single context accesses: `k` threads, each a
small-step machine (`Spec/SmallStep.lean`) with its own control stack and call log, over ONE shared
context, driven by an ARBITRARY schedule (a `List Nat`: the index of the thread that performs its next
step; an out-of-range index is a no-op, a finished thread stutters).
-/
import EvalexprVerif.Proofs.SmallStep

namespace Evalexpr.Machine
open Evalexpr Evalexpr.Spec

theorem stepThread_eq_modify (c : Ctx) (i : Nat) (sys : List MState) :
    stepThread c i sys = sys.modify i (step c) := by
  induction sys generalizing i with
  | nil => cases i <;> rfl
  | cons t ts ih =>
    cases i with
    | zero => rfl
    | succ i => simp [stepThread, ih]

theorem runSched_length (c : Ctx) (sched : List Nat) (sys : List MState) :
    (runSched c sched sys).length = sys.length := by
  induction sched generalizing sys with
  | nil => rfl
  | cons j sched ih => rw [runSched, ih, stepThread_eq_modify, List.length_modify]

theorem runSched_append (c : Ctx) (s₁ s₂ : List Nat) (sys : List MState) :
    runSched c (s₁ ++ s₂) sys = runSched c s₂ (runSched c s₁ sys) := by
  induction s₁ generalizing sys with
  | nil => rfl
  | cons j s₁ ih => simp only [List.cons_append, runSched, ih]

theorem interleave_state (c : Ctx) (sched : List Nat) (sys : List MState) (i : Nat) :
    (runSched c sched sys)[i]? = sys[i]?.map (run c (sched.count i)) := by
  induction sched generalizing sys with
  | nil => cases h : sys[i]? <;> simp [runSched, run, h]
  | cons j sched ih =>
    rw [runSched, ih, List.count_cons, stepThread_eq_modify, List.getElem?_modify]
    by_cases h : j = i
    · subst h
      cases sys[j]? <;> simp [run]
    · cases sys[i]? <;> simp [h]

theorem initSys_get (ns : List Node) (i : Nat) :
    (initSys ns)[i]? = ns[i]?.map (fun n => init n []) := by
  simp [initSys]

theorem interleave_init (c : Ctx) (sched : List Nat) (ns : List Node) (i : Nat) :
    (runSched c sched (initSys ns))[i]? = ns[i]?.map (fun n => run c (sched.count i) (init n [])) := by
  rw [interleave_state, initSys_get]
  cases ns[i]? <;> rfl

theorem interleave_finishes (c : Ctx) (sched : List Nat) (ns : List Node) (i : Nat) (n : Node)
    (hn : ns[i]? = some n) (hfair : bound n ≤ sched.count i) :
    (runSched c sched (initSys ns))[i]? =
      some ⟨.finished (n.evalRO ⟨c, []⟩).1, [], (n.evalRO ⟨c, []⟩).2.log⟩ := by
  rw [interleave_init, hn, Option.map_some, adequacy c n [] _ hfair]

theorem interleave_stable (c : Ctx) (sched sched' : List Nat) (sys : List MState) (i : Nat)
    (st : MState) (r : Res Value) (l : List (Str × Value))
    (hst : (runSched c sched sys)[i]? = some st) (hr : st.result? = some (r, l)) :
    (runSched c (sched ++ sched') sys)[i]? = some st := by
  rw [runSched_append, interleave_state c sched', hst, Option.map_some, run_of_result hr]

theorem count_roundRobin (k rounds i : Nat) (h : i < k) : (roundRobin k rounds).count i = rounds := by
  simp [roundRobin, List.count_flatten, List.count_range, h]

end Evalexpr.Machine

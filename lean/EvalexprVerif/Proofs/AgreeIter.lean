/- Proofs/AgreeIter.lean — extracted tables equal the expected ones (see Spec/Tables.lean). -/
import EvalexprVerif.Generated.IterBodies
import EvalexprVerif.Spec.Tables

namespace Evalexpr.Agree
open Evalexpr.Spec

/-- the two `next` bodies are the same loop, modulo `iter`/`iter_mut` and node/operator -/
theorem iterNext_agree : Generated.operatorIterMutNext = Generated.nodeIterNextAsMut := rfl
theorem iterFilters_agree : Generated.iterFilters = Tables.iterFilters := rfl

end Evalexpr.Agree

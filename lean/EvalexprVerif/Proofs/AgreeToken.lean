/-
Proofs/AgreeToken.lean — the lexer / token tables extracted from src/token/mod.rs and the
token → operator arms of `tokens_to_operator_tree` equal the model's.
-/
import EvalexprVerif.Generated.TokenTables
import EvalexprVerif.Model.Tree

namespace Evalexpr.Agree

/-- Rust variant name of a token -/
def tokenName : Token → String
  | .plus => "Plus" | .minus => "Minus" | .star => "Star" | .slash => "Slash"
  | .percent => "Percent" | .hat => "Hat"
  | .eq => "Eq" | .neq => "Neq" | .gt => "Gt" | .lt => "Lt" | .geq => "Geq" | .leq => "Leq"
  | .and => "And" | .or => "Or" | .not => "Not"
  | .lBrace => "LBrace" | .rBrace => "RBrace"
  | .assign => "Assign" | .plusAssign => "PlusAssign" | .minusAssign => "MinusAssign"
  | .starAssign => "StarAssign" | .slashAssign => "SlashAssign"
  | .percentAssign => "PercentAssign" | .hatAssign => "HatAssign"
  | .andAssign => "AndAssign" | .orAssign => "OrAssign"
  | .comma => "Comma" | .semicolon => "Semicolon"
  | .identifier _ => "Identifier" | .float _ => "Float" | .int _ => "Int"
  | .boolean _ => "Boolean" | .string _ => "String"

theorem leftsided_agree (t : Token) :
    t.isLeftsidedValue = Generated.leftsided.contains (tokenName t) := by
  cases t <;> first | decide | (simp only [Token.isLeftsidedValue, tokenName]; decide)

theorem rightsided_agree (t : Token) :
    t.isRightsidedValue = Generated.rightsided.contains (tokenName t) := by
  cases t <;> first | decide | (simp only [Token.isRightsidedValue, tokenName]; decide)

theorem assignment_agree (t : Token) :
    t.isAssignment = Generated.assignmentTokens.contains (tokenName t) := by
  cases t <;> first | decide | (simp only [Token.isAssignment, tokenName]; decide)

/-- a comparison of partial tokens that is enough for the character table (no literal payloads) -/
def samePartial : PartialToken → PartialToken → Bool
  | .token a, .token b => tokenName a == tokenName b
  | .plus, .plus | .minus, .minus | .star, .star | .slash, .slash | .percent, .percent
  | .hat, .hat | .whitespace, .whitespace | .eq, .eq | .exclamationMark, .exclamationMark
  | .gt, .gt | .lt, .lt | .ampersand, .ampersand | .verticalBar, .verticalBar => true
  | _, _ => false

/-- every explicit arm of `char_to_partial_token` is the model's answer for that character -/
theorem charMap_agree :
    Generated.charMap.all (fun (c, p) => samePartial (charToPartialToken c) p) = true := by decide

/-- and the model has no special character beyond the 16 explicit arms -/
theorem charMap_chars :
    Generated.charMap.map (·.1) =
      ['+', '-', '*', '/', '%', '^', '(', ')', ',', ';', '=', '!', '>', '<', '&', '|'] := by decide

theorem charMap_default (c : Char)
    (h : c ∉ ['+', '-', '*', '/', '%', '^', '(', ')', ',', ';', '=', '!', '>', '<', '&', '|']) :
    charToPartialToken c = if isWhitespace c then .whitespace else .literal [c] := by
  simp only [List.mem_cons, List.not_mem_nil, or_false, not_or] at h
  simp [charToPartialToken, h]

/-- `tokenize` is the composition of the two phases; `parse_dec_or_hex` and `parse_escape_sequence` are as modelled -/
theorem lexerGlue_agree : Generated.lexerGlueRecognised = true := rfl

/-- the node kind a token directly creates; `none` for the four tokens handled by shape -/
def simpleOperatorKind : Token → Option OpKind
  | .plus => some .add | .star => some .mul | .slash => some .div | .percent => some .mod
  | .hat => some .exp
  | .eq => some .eq | .neq => some .neq | .gt => some .gt | .lt => some .lt | .geq => some .geq
  | .leq => some .leq | .and => some .and | .or => some .or | .not => some .not
  | .assign => some .assign | .plusAssign => some .addAssign | .minusAssign => some .subAssign
  | .starAssign => some .mulAssign | .slashAssign => some .divAssign
  | .percentAssign => some .modAssign | .hatAssign => some .expAssign
  | .andAssign => some .andAssign | .orAssign => some .orAssign
  | .comma => some .tuple | .semicolon => some .chain
  | .float _ | .int _ | .boolean _ | .string _ => some .const
  | .minus | .identifier _ | .lBrace | .rBrace => none

theorem tokenOperator_agree (t : Token) :
    Generated.tokenOperator.lookup (tokenName t) = simpleOperatorKind t := by
  cases t <;> first | decide | (simp only [tokenName, simpleOperatorKind]; decide)

/-- the model builds a fresh node of exactly that kind for such a token -/
theorem tokenToNode_simple (t : Token) (k : OpKind) (h : simpleOperatorKind t = some k)
    (stack : List Node) (lr : Bool) (next : Option Token) :
    ∃ op, tokenToNode stack lr t next = .ok (some (Node.new op), stack) ∧ op.kind = k := by
  cases t <;> simp [simpleOperatorKind] at h <;> subst h <;> exact ⟨_, rfl, rfl⟩

end Evalexpr.Agree

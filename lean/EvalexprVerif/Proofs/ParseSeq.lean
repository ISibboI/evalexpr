/-
Proofs/ParseSeq.lean — property C05: the tree builder parses the rendering of a well-formed
sequence level (a chain by `;` of tuples by `,` of optional operands, nesting through parentheses)
to the reference tree of `Spec/Seq.lean`.

An element is read by `Opd.fills` (`ParseExpr.lean`) into the item of its level (`Lvl`,
`TreeLevels.lean`) or, if it is a parenthesised level, by the level result one nesting deeper.
Reading a level is then a fold of element fillings and separators (`Lvl.comma`, `Lvl.semi`) over
its members
(`readLevel`, `run_level`), and the reference tree is what that fold closes to (`readLevel_tree`).
-/
import EvalexprVerif.Spec.Seq
import EvalexprVerif.Proofs.ParseExpr

namespace Evalexpr.Spec
open Evalexpr

def Token.isSep : Token → Bool
  | .comma | .semicolon | .rBrace => true
  | _ => false

/-- after an element: `,` `;` `)` or the end of the input -/
def sepNext (suf : List Token) : Prop := ∀ t, suf.head? = some t → Token.isSep t = true

theorem Token.isSep_cases {t : Token} (h : Token.isSep t = true) :
    t = .comma ∨ t = .semicolon ∨ t = .rBrace := by
  cases t <;> simp [Token.isSep] at h ⊢

theorem sepNext.ok {suf : List Token} (h : sepNext suf) : okNext suf := by
  intro t ht
  rcases Token.isSep_cases (h t ht) with rfl | rfl | rfl <;> exact ⟨rfl, rfl⟩

theorem sepNext_cons {tok : Token} (h : Token.isSep tok = true) (ts : List Token) :
    sepNext (tok :: ts) := by
  intro t ht; cases ht; exact h

theorem sepNext_rBrace (ts : List Token) : sepNext (.rBrace :: ts) := sepNext_cons rfl ts

/-- the two flags of the token loop do not matter in front of a separator -/
theorem flags_irrelevant (suf : List Token) (st : List Node) (lr li : Bool) (h : sepNext suf) :
    treeLoop suf st lr li = treeLoop suf st false false := by
  cases suf with
  | nil => simp [treeLoop]
  | cons t ts =>
    rcases Token.isSep_cases (h t rfl) with rfl | rfl | rfl <;>
      simp [treeLoop, treeStep, juxtaposed, tokenToNode, Token.isNot, Token.isLeftsidedValue]

theorem step_separator {tok : Token} {op : Operator}
    (htok : tok = .comma ∧ op = .tuple ∨ tok = .semicolon ∧ op = .chain)
    {ts : List Token} {st st' : List Node} {lr li : Bool}
    (h : pushAny st (Node.new op) = .ok st') :
    treeLoop (tok :: ts) st lr li = treeLoop ts st' false false := by
  rcases htok with ⟨rfl, rfl⟩ | ⟨rfl, rfl⟩ <;>
    simp [treeLoop, treeStep_eq, juxtaposed, Token.isNot, Token.isLeftsidedValue, tokenToNode, h,
      Token.isRightsidedValue, Token.isIdentifier]

def elemKids : Option Operand → List Node
  | none => []
  | some o => [operandTree o]

theorem elemTree_eq (x : Option Operand) : elemTree x = ⟨.rootNode, elemKids x⟩ := by
  cases x <;> simp [elemTree, elemKids, rootOf]

theorem elemKids_len (x : Option Operand) : (elemKids x).length ≤ 1 := by
  cases x <;> simp [elemKids]

/-- the tree of a level is a parenthesis node with at most one child -/
theorem levelTreeAux_root (ms : List (List (Option Operand))) :
    ∃ cs, levelTreeAux ms = ⟨.rootNode, cs⟩ ∧ cs.length ≤ 1 := by
  match ms with
  | [] => rw [levelTreeAux.eq_1]; exact ⟨[], rfl, by simp⟩
  | [[]] => rw [levelTreeAux.eq_2]; exact ⟨[], rfl, by simp⟩
  | [[x]] => rw [levelTreeAux.eq_3, elemTree_eq]; exact ⟨_, rfl, elemKids_len x⟩
  | [x :: y :: r] => rw [levelTreeAux.eq_4 _ (by simp) (by simp)]; exact ⟨_, rfl, by simp⟩
  | m :: m' :: r => rw [levelTreeAux.eq_5]; exact ⟨_, rfl, by simp⟩

theorem levelTreeAux_op (ms : List (List (Option Operand))) :
    (levelTreeAux ms).op = .rootNode := by
  obtain ⟨cs, h, _⟩ := levelTreeAux_root ms
  rw [h]

/-- an element: its rendering fills the empty item of its level -/
def ElemGoal (x : Option Operand) : Prop :=
  ∀ (c : Ctx) (rest : List Node) (suf : List Token), sepNext suf →
    treeLoop (renderOpt x ++ suf) ((Lvl.mk c []).toList ++ rest) false false
      = treeLoop suf ((Lvl.mk c (elemKids x)).toList ++ rest) false false

/-- a level: its rendering turns a fresh parenthesis node into a level that folds to the level's
tree -/
def LevelGoal (ms : List (List (Option Operand))) : Prop :=
  ∀ (rest : List Node) (suf : List Token), sepNext suf →
    ∃ L : Lvl,
      treeLoop (renderLevelAux ms ++ suf) (⟨.rootNode, []⟩ :: rest) false false
        = treeLoop suf (L.toList ++ rest) false false ∧
      L.collapse = levelTreeAux ms

theorem elem_expr (e : Expr) : ElemGoal (some (.expr e)) := by
  intro c rest suf hs
  have h := (render_opd e).fills c [] rest suf false false .nil (fun _ h => nomatch h)
    (.inl rfl) hs.ok
  simp only [renderOpt, renderOperand, elemKids, operandTree]
  exact h.trans (flags_irrelevant suf _ _ _ hs)

theorem elem_group (ms : List (List (Option Operand))) (h : LevelGoal ms) :
    ElemGoal (some (.group ms)) := by
  intro c rest suf hs
  simp only [renderOpt, renderOperand, elemKids, operandTree, List.cons_append,
    List.append_assoc, List.nil_append]
  rw [step_lBrace _ _ _ _ (.inl rfl)]
  obtain ⟨L, hrun, hcol⟩ := h ((Lvl.mk c []).toList ++ rest) (.rBrace :: suf)
    (sepNext_rBrace suf)
  obtain ⟨cs, hcs, hlen⟩ := levelTreeAux_root ms
  rw [← hcol] at hcs ⊢
  have hins : (⟨.rootNode, []⟩ : Node).insertBackPrioritized L.collapse true
      = .ok ⟨.rootNode, [L.collapse]⟩ :=
    ins_atom (F := []) .nil _ (by rw [hcs]; rfl)
  -- the level is read, `)` folds it and inserts it like an atom
  exact hrun.trans ((step_rBrace c suf L (by rw [hcs]; exact rootNode_fits cs hlen) _ _ rest
    false false hins).trans (flags_irrelevant suf _ _ _ hs))

theorem elem_none : ElemGoal none := by
  intro c rest suf hs
  simp [renderOpt, elemKids]

/-- the level after the elements of a member have been read into it -/
def readMember (L : Lvl) : List (Option Operand) → Lvl
  | [] => L
  | [x] => ⟨L.ctx, elemKids x⟩
  | x :: y :: r => readMember (Lvl.comma ⟨L.ctx, elemKids x⟩) (y :: r)

/-- the level after the members of a level have been read into it -/
def readLevel (L : Lvl) : List (List (Option Operand)) → Lvl
  | [] => L
  | [m] => readMember L m
  | m :: m' :: r => readLevel (readMember L m).semi (m' :: r)

theorem run_member (m : List (Option Operand)) (hx : ∀ x ∈ m, ElemGoal x) :
    ∀ (c : Ctx) (rest : List Node) (suf : List Token), sepNext suf →
    treeLoop (renderMemberAux m ++ suf) ((Lvl.mk c []).toList ++ rest) false false
      = treeLoop suf ((readMember ⟨c, []⟩ m).toList ++ rest) false false := by
  induction m with
  | nil => exact fun c rest suf _ => rfl
  | cons x xs ih =>
    intro c rest suf hs
    cases xs with
    | nil => exact hx x (by simp) c rest suf hs  -- `x` is the last element
    | cons y r => -- `x`, then `,` and the elements `y :: r`
      rw [renderMemberAux.eq_3, List.append_assoc, List.cons_append,
        hx x (by simp) c rest _ (sepNext_cons rfl _),
        step_separator (.inl ⟨rfl, rfl⟩) (push_comma _ rest)]
      exact ih (fun z hz => hx z (by simp [hz])) _ rest suf hs

theorem run_level (ms : List (List (Option Operand))) (hx : ∀ m ∈ ms, ∀ x ∈ m, ElemGoal x) :
    ∀ (c : Ctx) (rest : List Node) (suf : List Token), sepNext suf →
    treeLoop (renderLevelAux ms ++ suf) ((Lvl.mk c []).toList ++ rest) false false
      = treeLoop suf ((readLevel ⟨c, []⟩ ms).toList ++ rest) false false := by
  induction ms with
  | nil => exact fun c rest suf _ => rfl
  | cons m ms ih =>
    intro c rest suf hs
    cases ms with
    | nil => exact run_member m (hx m (by simp)) c rest suf hs  -- `m` is the last member
    | cons m' r => -- `m`, then `;` and the members `m' :: r`
      rw [renderLevelAux.eq_3, List.append_assoc, List.cons_append,
        run_member m (hx m (by simp)) c rest _ (sepNext_cons rfl _),
        step_separator (.inr ⟨rfl, rfl⟩) (push_semi _ rest)]
      exact ih (fun z hz => hx z (by simp [hz])) _ rest suf hs

/-- the remaining elements of an open tuple: they are its further children -/
theorem readMember_tuple (m : List (Option Operand)) (hne : m ≠ []) (ch : Option (List Node)) :
    ∀ (t ks : List Node), ∃ t' ks', readMember ⟨⟨some t, ch⟩, ks⟩ m = ⟨⟨some t', ch⟩, ks'⟩ ∧
      t' ++ [⟨.rootNode, ks'⟩] = t ++ elemTrees m := by
  induction m with
  | nil => exact absurd rfl hne
  | cons x xs ih =>
    intro t ks
    cases xs with
    | nil => exact ⟨t, elemKids x, rfl, by simp [elemTrees, elemTree_eq]⟩
    | cons y r =>
      obtain ⟨t', ks', h1, h2⟩ := ih (by simp) (t ++ [⟨.rootNode, elemKids x⟩]) []
      exact ⟨t', ks', h1, by simp [h2, elemTrees, elemTree_eq]⟩

/-- a member read from its start: `;` after it makes its tree the next member of the chain, a new
one if it is the first; at the end of the level it is the last member of the chain, or the level's
tree if it is the only one -/
theorem readMember_start (m : List (Option Operand)) (hne : m ≠ []) (ch : Option (List Node))
    (ks : List Node) :
    (readMember ⟨⟨none, ch⟩, ks⟩ m).semi = ⟨⟨none, some (ch.getD [] ++ [memberTree m])⟩, []⟩ ∧
    (readMember ⟨⟨none, ch⟩, ks⟩ m).collapse = match ch with
      | some c => ⟨.rootNode, [⟨.chain, c ++ [memberTree m]⟩]⟩
      | none => levelTreeAux [m] := by
  match m, hne with
  | [x], _ =>
    rw [levelTreeAux.eq_3]
    cases ch <;> simp [readMember, Lvl.semi, Lvl.member, Lvl.collapse, Ctx.frames, close,
      Frame.fill, R, memberTree, elemTree_eq, Lvl.item]
  | x :: y :: r, _ => -- `,` after the first element starts a tuple
    obtain ⟨t', ks', h1, h2⟩ := readMember_tuple (y :: r) (by simp) ch [⟨.rootNode, elemKids x⟩] []
    rw [levelTreeAux.eq_4 _ (by simp) (by simp), readMember]
    simp only [Lvl.comma, Option.getD, List.nil_append, Lvl.item] at h1 ⊢
    rw [h1]
    cases ch <;> simp [Lvl.semi, Lvl.member, Lvl.collapse, Ctx.frames, close, Frame.fill, R,
      memberTree, elemTree_eq, Lvl.item, h2, rootOf, elemTrees]

/-- the members after the first `;` -/
theorem readLevel_chain (ms : List (List (Option Operand))) (hne : ms ≠ [])
    (hms : ∀ m ∈ ms, m ≠ []) :
    ∀ (c ks : List Node), (readLevel ⟨⟨none, some c⟩, ks⟩ ms).collapse
      = ⟨.rootNode, [⟨.chain, c ++ memberTrees ms⟩]⟩ := by
  induction ms with
  | nil => exact absurd rfl hne
  | cons m ms ih =>
    intro c ks
    have hm := readMember_start m (hms m (by simp)) (some c) ks
    cases ms with
    | nil => rw [readLevel, hm.2]; simp [memberTrees]  -- `m` is the last member
    | cons m' r => -- `m`, then `;` and the members `m' :: r`
      rw [readLevel, hm.1, ih (by simp) (fun z hz => hms z (by simp [hz]))]
      simp [memberTrees]

theorem readLevel_tree (ms : List (List (Option Operand))) (hne : ms ≠ [])
    (hms : ∀ m ∈ ms, m ≠ []) : (readLevel .fresh ms).collapse = levelTreeAux ms := by
  have hm := fun m hm => readMember_start m (hms m hm) none []
  match ms, hne with
  | [m], _ => exact (hm m (by simp)).2  -- a level without `;`
  | m :: m' :: r, _ => -- the first member, then `;` opens the chain (`readLevel_chain`)
    rw [Lvl.fresh, readLevel, (hm m (by simp)).1,
      readLevel_chain _ (by simp) (fun z hz => hms z (by simp [hz])), levelTreeAux.eq_5]
    rfl

theorem memberWf_iff (m : List (Option Operand)) :
    memberWf m = true ↔ m ≠ [] ∧ ∀ x ∈ m, optWf x = true := by
  induction m with
  | nil => simp [memberWf]
  | cons a m ih =>
    cases m with
    | nil => simp [memberWf]
    | cons b r => rw [memberWf.eq_3, Bool.and_eq_true, ih]; simp

theorem levelWf_iff (ms : List (List (Option Operand))) :
    levelWf ms = true ↔ ms ≠ [] ∧ ∀ m ∈ ms, memberWf m = true := by
  induction ms with
  | nil => simp [levelWf]
  | cons a ms ih =>
    cases ms with
    | nil => simp [levelWf]
    | cons b r => rw [levelWf.eq_3, Bool.and_eq_true, ih]; simp

def ElemsOK (m : List (Option Operand)) : Prop := ∀ x ∈ m, optWf x = true → ElemGoal x

theorem level_of_elems (ms : List (List (Option Operand))) (h : ∀ m ∈ ms, ElemsOK m)
    (hwf : levelWf ms = true) : LevelGoal ms := by
  obtain ⟨hne, hms⟩ := (levelWf_iff ms).1 hwf
  have hm := fun m hm => (memberWf_iff m).1 (hms m hm)
  intro rest suf hs
  -- the run of the loop (`run_level`), and what the level it leaves folds to (`readLevel_tree`)
  exact ⟨_, run_level ms (fun m hm' x hx => h m hm' x hx ((hm m hm').2 x hx)) ⟨none, none⟩ rest suf
    hs, readLevel_tree ms hne fun m hm' => (hm m hm').1⟩

theorem elem_main (x : Option Operand) : optWf x = true → ElemGoal x := by
  refine Operand.rec_3
    (motive_1 := fun o => o.wf = true → ElemGoal (some o))
    (motive_2 := fun ms => ∀ m ∈ ms, ElemsOK m)
    (motive_3 := fun m => ElemsOK m)
    (motive_4 := fun x => optWf x = true → ElemGoal x)
    ?expr ?group ?noMembers ?member ?noElements ?element ?absent ?present x
  case expr => exact fun e _ => elem_expr e
  case group =>
    exact fun ms ih hwf => elem_group ms (level_of_elems ms ih (by simpa [Operand.wf] using hwf))
  case noMembers => exact fun _ h => nomatch h
  case member => exact fun _ _ ihm ihms => List.forall_mem_cons.2 ⟨ihm, ihms⟩
  case noElements => exact fun _ h => nomatch h
  case element => exact fun _ _ ihx ihm => List.forall_mem_cons.2 ⟨ihx, ihm⟩
  case absent => exact fun _ => elem_none
  case present => exact fun o ih hwf => ih (by simpa [optWf] using hwf)

/-- the tree builder on the rendering of any well-formed sequence level is the reference tree -/
theorem C05_tree (l : Level) (h : levelWf l = true) :
    tokensToOperatorTree (renderLevel l) = .ok (levelTree l) := by
  obtain ⟨L, hrun, hcol⟩ :=
    level_of_elems l (fun _ _ x _ => elem_main x) h [] [] fun _ h => nomatch h
  obtain ⟨cs, hcs, hlen⟩ := levelTreeAux_root l
  simp only [List.append_nil, treeLoop] at hrun
  have := collapse_explicit L []
  rw [hcol, hcs, rootNode_fits cs hlen, List.append_nil] at this
  simp [tokensToOperatorTree, renderLevel, levelTree, Node.rootNode, hrun, this, hcs]

end Evalexpr.Spec

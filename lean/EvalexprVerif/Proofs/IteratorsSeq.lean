/-
Proofs/IteratorsSeq.lean — property C14 over the whole domain of C05 (sequence levels: chains of
tuples of optional operands, parenthesised levels, absent elements and empty groups). Source order
is a computation on `occList` along the mutual helpers of `levelTree`; the two claims about
evaluation follow from `Targeted (levelTree l)`, an instance of the structural induction over those
helpers, done once for any pair of predicates closed under the grouping constructions (`SeqClosed`).
-/
import EvalexprVerif.Spec.IdentsSeq
import EvalexprVerif.Proofs.Iterators
import EvalexprVerif.Proofs.ParseSeq

namespace Evalexpr.Spec
open Evalexpr

theorem occList_cons_noIdent (op : Operator) (cs rest : List Node) (h : op.ident = none) :
    occList (⟨op, cs⟩ :: rest) = occList cs ++ occList rest := by
  simp [occList_cons, h]

theorem occList_rootOf (cs rest : List Node) :
    occList (rootOf cs :: rest) = occList cs ++ occList rest :=
  occList_cons_noIdent _ _ _ rfl

mutual
theorem occList_operandTree : ∀ (o : Operand) (rest : List Node),
    occList (operandTree o :: rest) = occOperand o ++ occList rest
  | .expr e, rest => by simp only [operandTree, occOperand, occList_toTree]
  | .group ms, rest => by simp only [operandTree, occOperand, occList_levelTreeAux ms rest]
theorem occList_elemTree : ∀ (x : Option Operand) (rest : List Node),
    occList (elemTree x :: rest) = occOpt x ++ occList rest
  | none, rest => by simp only [elemTree, occOpt, occList_rootOf, occList_nil, List.nil_append]
  | some o, rest => by
    simp only [elemTree, occOpt, occList_rootOf, occList_operandTree o [], occList_nil,
      List.append_nil]
theorem occList_elemTrees : ∀ (xs : List (Option Operand)),
    occList (elemTrees xs) = occMember xs
  | [] => by simp only [elemTrees, occMember, occList_nil]
  | x :: xs => by
    simp only [elemTrees, occMember, occList_elemTree x (elemTrees xs), occList_elemTrees xs]
theorem occList_memberTree : ∀ (m : List (Option Operand)) (rest : List Node),
    occList (memberTree m :: rest) = occMember m ++ occList rest
  | [], rest => by simp only [memberTree, occMember, occList_rootOf, occList_nil]
  | [x], rest => by
    simp only [memberTree, occMember, occList_elemTree x rest, List.append_nil]
  | x :: y :: xs, rest => by
    have ht : Operator.tuple.ident = none := rfl
    rw [memberTree, occList_cons_noIdent _ _ _ ht, occList_elemTree x (elemTrees (y :: xs)),
      occList_elemTrees (y :: xs)]
    simp only [occMember]
theorem occList_memberTrees : ∀ (ms : List (List (Option Operand))),
    occList (memberTrees ms) = occLevelAux ms
  | [] => by simp only [memberTrees, occLevelAux, occList_nil]
  | m :: ms => by
    simp only [memberTrees, occLevelAux, occList_memberTree m (memberTrees ms),
      occList_memberTrees ms]
theorem occList_levelTreeAux : ∀ (ms : List (List (Option Operand))) (rest : List Node),
    occList (levelTreeAux ms :: rest) = occLevelAux ms ++ occList rest
  | [], rest => by simp only [levelTreeAux, occLevelAux, occList_rootOf, occList_nil]
  | [[]], rest => by
    simp only [levelTreeAux, occLevelAux, occMember, occList_rootOf, occList_nil, List.append_nil]
  | [[x]], rest => by               -- no separator: the element itself
    simp only [levelTreeAux, occLevelAux, occMember, occList_elemTree x rest, List.append_nil]
  | [x :: y :: xs], rest => by      -- only `,`: one tuple under a root
    simp only [levelTreeAux, occLevelAux, occList_rootOf, occList_memberTree (x :: y :: xs) [],
      occList_nil, List.append_nil]
  | m :: m' :: ms, rest => by       -- some `;`: a chain of members under a root
    have hc : Operator.chain.ident = none := rfl
    rw [levelTreeAux, occList_rootOf, occList_cons_noIdent _ _ _ hc,
      occList_memberTree m (memberTrees (m' :: ms)), occList_memberTrees (m' :: ms)]
    simp only [occLevelAux, occList_nil, List.append_nil]
end

theorem levelTree_ident (l : Level) : (levelTree l).op.ident = none := by
  rw [levelTree, levelTreeAux_op]; rfl

theorem C14_source_level (l : Level) : identOccurrences (levelTree l) = occLevel l := by
  have h := occList_levelTreeAux l []
  rwa [occList_singleton, show (levelTreeAux l).op.ident = none from levelTree_ident l,
    occList_nil, List.append_nil, ← identOccurrences_eq] at h

theorem C14_source_level_built (l : Level) (h : levelWf l = true) :
    (tokensToOperatorTree (renderLevel l)).map identOccurrences = .ok (occLevel l) := by
  rw [C05_tree l h]
  simp only [Except.map, C14_source_level]

/-- a property of nodes (`P`) and of child lists (`PL`) that holds on the trees of expressions and
is preserved by the three grouping operators -/
structure SeqClosed (P : Node → Prop) (PL : List Node → Prop) : Prop where
  expr : ∀ e : Expr, P (toTree e)
  nil : PL []
  cons : ∀ c cs, P c → PL cs → PL (c :: cs)
  root : ∀ cs, PL cs → P ⟨.rootNode, cs⟩
  tuple : ∀ cs, PL cs → P ⟨.tuple, cs⟩
  chain : ∀ cs, PL cs → P ⟨.chain, cs⟩

mutual
theorem closed_operandTree {P : Node → Prop} {PL : List Node → Prop} (H : SeqClosed P PL) :
    ∀ o : Operand, P (operandTree o)
  | .expr e => by rw [operandTree]; exact H.expr e
  | .group ms => by rw [operandTree]; exact closed_levelTreeAux H ms
theorem closed_elemTree {P : Node → Prop} {PL : List Node → Prop} (H : SeqClosed P PL) :
    ∀ x : Option Operand, P (elemTree x)
  | none => by rw [elemTree]; exact H.root _ H.nil
  | some o => by
    rw [elemTree]; exact H.root _ (H.cons _ _ (closed_operandTree H o) H.nil)
theorem closed_elemTrees {P : Node → Prop} {PL : List Node → Prop} (H : SeqClosed P PL) :
    ∀ xs : List (Option Operand), PL (elemTrees xs)
  | [] => by rw [elemTrees]; exact H.nil
  | x :: xs => by
    rw [elemTrees]; exact H.cons _ _ (closed_elemTree H x) (closed_elemTrees H xs)
theorem closed_memberTree {P : Node → Prop} {PL : List Node → Prop} (H : SeqClosed P PL) :
    ∀ m : List (Option Operand), P (memberTree m)
  | [] => by rw [memberTree]; exact H.root _ H.nil
  | [x] => by rw [memberTree]; exact closed_elemTree H x
  | x :: y :: xs => by
    rw [memberTree]
    exact H.tuple _ (H.cons _ _ (closed_elemTree H x) (closed_elemTrees H (y :: xs)))
theorem closed_memberTrees {P : Node → Prop} {PL : List Node → Prop} (H : SeqClosed P PL) :
    ∀ ms : List (List (Option Operand)), PL (memberTrees ms)
  | [] => by rw [memberTrees]; exact H.nil
  | m :: ms => by
    rw [memberTrees]; exact H.cons _ _ (closed_memberTree H m) (closed_memberTrees H ms)
theorem closed_levelTreeAux {P : Node → Prop} {PL : List Node → Prop} (H : SeqClosed P PL) :
    ∀ ms : List (List (Option Operand)), P (levelTreeAux ms)
  | [] => by rw [levelTreeAux.eq_1]; exact H.root _ H.nil
  | [[]] => by rw [levelTreeAux.eq_2]; exact H.root _ H.nil
  | [[x]] => by rw [levelTreeAux.eq_3]; exact closed_elemTree H x   -- no separator: the element itself
  | [x :: y :: xs] => by                                            -- only `,`: one tuple
    rw [levelTreeAux.eq_4 _ (by simp) (by simp)]
    exact H.root _ (H.cons _ _ (closed_memberTree H (x :: y :: xs)) H.nil)
  | m :: m' :: ms => by                                             -- some `;`: a chain of members
    rw [levelTreeAux.eq_5]
    exact H.root _ (H.cons _ _
      (H.chain _ (H.cons _ _ (closed_memberTree H m) (closed_memberTrees H (m' :: ms)))) H.nil)
end

theorem targeted_levelTree (l : Level) : Targeted (levelTree l) :=
  closed_levelTreeAux (PL := fun cs => ∀ c ∈ cs, Targeted c)
    { expr := targeted_toTree
      nil := nofun
      cons := fun _ _ hc hcs => List.forall_mem_cons.2 ⟨hc, hcs⟩
      root := fun _ h => .other rfl nofun h
      tuple := fun _ h => .other rfl nofun h
      chain := fun _ h => .other rfl nofun h } l

theorem C14_unknown_var_level (l : Level) (s : St) (x : Str) (hnf : NoFabricate s.ctx)
    (h : ((levelTree l).evalMut s).1 = .error (.variableIdentifierNotFound x)) :
    x ∈ (levelTree l).iterIdents .variable :=
  (targeted_levelTree l).unknown_var (levelTree_ident l) hnf h

theorem C14_unknown_fn_level (l : Level) (s : St) (f : Str) (hnf : NoFabricate s.ctx)
    (h : ((levelTree l).evalMut s).1 = .error (.functionIdentifierNotFound f)) :
    f ∈ (levelTree l).iterIdents .function :=
  (targeted_levelTree l).unknown_fn (levelTree_ident l) hnf h

theorem C14_rename_level (l : Level) (r : Str → Str) (hinj : Function.Injective r) (h : HashMapCtx)
    (log : List (Str × Value)) (hnf : NoFabricate (.hashMap h)) :
    let t : Node := levelTree l
    let out := t.evalMut ⟨.hashMap h, log⟩
    let out' := (t.renameDesc .variable r).evalMut ⟨.hashMap (renameVars r h), log⟩
    out'.1 = renameRes r out.1 ∧ out'.2.log = out.2.log ∧
      (∃ h₁, out.2.ctx = .hashMap h₁ ∧ out'.2.ctx = .hashMap (renameVars r h₁)) :=
  (targeted_levelTree l).rename (levelTree_ident l) r hinj h log (.of_noFabricate hnf)

end Evalexpr.Spec

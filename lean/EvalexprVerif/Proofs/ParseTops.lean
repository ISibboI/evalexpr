/-
Proofs/ParseTops.lean — the precedence facts that make the parentheses of `render`
(`Spec/Ast.lean`) and of `renderL` (`Spec/AstLoose.lean`) sufficient (part of the proof of C02).

The tree builder's test `descends s o` compares two binding powers (`descends_iff`): the right
binding power `rbp s` of the operator `s` whose operand slot is open, and the left binding power
`lbp o` of the arriving operator; a prefix operator always descends. Both are twice the precedence,
the odd values in between separating the two directions of grouping at equal precedence.

`idx e` is the least left binding power among the binary and assignment operators that arrive at
the top level of a parenthesis level while the rendering of `e` is read (400, the value for an
operand, if there is none): the operator at the head of `e`, found through a chain of prefix
operators written without parentheses. An operand is left bare only below an operator whose right
binding power is less than that (`idx_right`, `idx_unary`, `idx_rhs`).
-/
import EvalexprVerif.Spec.AstLoose

namespace Evalexpr.Spec
open Evalexpr

/-- the operators that are inserted at the current parenthesis level while `render e` is read -/
def tops : Expr → List Operator
  | .lit _ | .var _ | .paren _ => []
  | .call f a => .fn f :: (if needsParenArg a then [] else tops a)
  | .neg e => .neg :: (if needsParenUnary e then [] else tops e)
  | .not e => .not :: (if needsParenUnary e then [] else tops e)
  | .bin op l r =>
    (if needsParenLeft op l then [] else tops l) ++
      op.toOperator :: (if needsParenRight op r then [] else tops r)
  | .assign op _ rhs => op.toOperator :: (if needsParenRhs op rhs then [] else tops rhs)

/-- a lower bound on the precedence of the left-to-right binary operators in `tops e`;
51 marks `x = …`, whose `=` is not left-to-right -/
def lb : Expr → Nat
  | .lit _ | .var _ | .call _ _ | .paren _ => 200
  | .neg _ | .not _ => 110
  | .bin op _ _ => op.docPrec
  | .assign .assign _ _ => 51
  | .assign _ _ _ => 50

theorem docPrec_le (op : BinOp) : op.docPrec ≤ 120 := by cases op <;> decide
theorem docPrec_ge (op : BinOp) : 70 ≤ op.docPrec := by cases op <;> decide

theorem lb_ge (e : Expr) : 50 ≤ lb e := by
  cases e with
  | assign aop x rhs => cases aop <;> simp [lb]
  | bin bop l r => have := docPrec_ge bop; simp [lb]; omega
  | _ => simp [lb]

/-- how strongly an operator holds the operand slot to its right -/
def rbp (s : Operator) : Nat := 2 * s.precedence + if s.isLeftToRight then 1 else 0

/-- how strongly an operator pulls on what stands to its left -/
def lbp (o : Operator) : Nat := 2 * o.precedence + if o.isLeftToRight then 0 else 1

theorem descends_iff (s o : Operator) :
    descends s o false = true ↔ o.isUnary = true ∨ rbp s < lbp o := by
  unfold descends rbp lbp
  cases o.isUnary with
  | true => simp
  | false => cases s.isLeftToRight <;> cases o.isLeftToRight <;> simp <;> omega

/-- an operator that descends into its own right operand (`=`) still holds everything stronger -/
theorem lbp_le (o : Operator) : lbp o ≤ rbp o + 1 := by
  unfold lbp rbp; cases o.isLeftToRight <;> simp <;> omega

theorem rbp_lt {s : Operator} (h : s.precedence < 200) : rbp s < 400 := by
  unfold rbp; cases s.isLeftToRight <;> simp <;> omega

theorem binop_facts (op : BinOp) :
    op.toOperator.isUnary = false ∧ op.toOperator.isLeftToRight = true ∧
    op.toOperator.precedence = op.docPrec ∧ op.toOperator.isLeaf = false ∧
    op.toOperator.isRoot = false ∧ op.toOperator.isSequence = false := by
  cases op <;> decide

theorem binop_bp (op : BinOp) :
    lbp op.toOperator = 2 * op.docPrec ∧ rbp op.toOperator = 2 * op.docPrec + 1 := by
  obtain ⟨_, h2, h3, _⟩ := binop_facts op
  simp [lbp, rbp, h2, h3]

theorem assignop_facts (op : AssignOp) :
    op.toOperator.isUnary = false ∧ op.toOperator.precedence = 50 ∧
    op.toOperator.isLeaf = false ∧ op.toOperator.isRoot = false ∧
    op.toOperator.isSequence = false := by
  cases op <;> decide

/-- 400: what an operand (precedence 200) would pull with; more than any operator holds -/
def idx : Expr → Nat
  | .neg e | .not e => if needsParenUnary e then 400 else idx e
  | .bin op _ _ => lbp op.toOperator
  | .assign op _ _ => lbp op.toOperator
  | _ => 400

/-- through a bare prefix chain only `^` can arrive -/
theorem idx_chain (e : Expr) (h : needsParenUnary e = false) :
    idx e = 400 ∨ (prefixCoreIsExp e = true ∧ idx e = 240) := by
  induction e with
  | neg e ih | not e ih =>
    simp only [idx, prefixCoreIsExp]
    cases hb : needsParenUnary e with
    | true => exact .inl rfl
    | false => exact ih hb
  | bin op l r =>
    cases op <;> first | exact Bool.noConfusion h | exact .inr ⟨rfl, rfl⟩
  | assign op x rhs => cases h
  | _ => exact .inl rfl

/-- the index of an operand that is parenthesised (`b`) or bare -/
theorem if_idx {r : Nat → Nat → Prop} {k m : Nat} {b : Bool} (hk : r k 400)
    (h : b = false → r k m) : r k (if b then 400 else m) := by
  cases b with
  | true => exact hk
  | false => exact h rfl

/-- the operand of a prefix operator -/
theorem idx_unary (e : Expr) : 221 < if needsParenUnary e then 400 else idx e :=
  if_idx (by decide) fun hb => by rcases idx_chain e hb with h | ⟨_, h⟩ <;> rw [h] <;> decide

theorem le_of_precLt {c : Option Nat} {p : Nat} (h : precLt c p = false) (hp : p ≤ 200) :
    p ≤ c.getD 200 := by
  cases c with
  | none => exact hp
  | some c => exact Nat.le_of_not_lt (of_decide_eq_false h)

theorem lt_of_precLe {c : Option Nat} {p : Nat} (h : precLe c p = false) (hp : p < 200) :
    p < c.getD 200 := by
  cases c with
  | none => exact hp
  | some c => exact Nat.lt_of_not_le (of_decide_eq_false h)

/-- twice the documented precedence of the head, or the value for an operand -/
theorem idx_ge (e : Expr) : 2 * e.headPrec.getD 200 ≤ idx e := by
  cases e with
  | neg e => exact Nat.le_of_lt (Nat.lt_trans (by decide : 220 < 221) (idx_unary (.neg e)))
  | not e => exact Nat.le_of_lt (Nat.lt_trans (by decide : 220 < 221) (idx_unary (.not e)))
  | bin op l r => exact Nat.le_of_eq (binop_bp op).1.symm
  | assign op x rhs => rw [idx, lbp, (assignop_facts op).2.1]; exact Nat.le_add_right _ _
  | _ => exact Nat.le_refl _

/-- the left operand of a binary operator -/
theorem idx_left (op : BinOp) (l : Expr) :
    lbp op.toOperator ≤ if needsParenLeft op l then 400 else idx l := by
  have := idx_ge l; have := docPrec_le op
  rw [(binop_bp op).1]
  exact if_idx (by omega) fun hb => by have := le_of_precLt hb (by omega); omega

theorem idx_right {op : BinOp} {r : Expr} (h : needsParenRight op r = false) :
    rbp op.toOperator < idx r := by
  have := idx_ge r; have := lt_of_precLe h (Nat.lt_of_le_of_lt (docPrec_le op) (by decide))
  rw [(binop_bp op).2]; omega

/-- the right-hand side of an assignment: a bare one is no assignment, or both operators are `=` -/
theorem idx_rhs (op : AssignOp) (e : Expr) :
    rbp op.toOperator < if needsParenRhs op e then 400 else idx e := by
  have hop : rbp op.toOperator ≤ 101 := by cases op <;> decide
  refine if_idx (by omega) fun h => ?_
  have := idx_ge e
  cases e with
  | assign aop x rhs =>
    obtain ⟨rfl, rfl⟩ : op = .assign ∧ aop = .assign := by simpa [needsParenRhs] using h
    exact (by decide : 100 < 101)
  | bin bop l r => have h70 := docPrec_ge bop; simp only [Expr.headPrec, Option.getD] at this; omega
  | _ => simp only [Expr.headPrec, unaryPrec, Option.getD] at this <;> omega

/-- the right operand of a binary operator, for the flag of `render` or of `renderL`: where
`renderL` drops parentheses of `render` — a prefix chain over a core that is no `^` expression as
right operand of `^` — no binary operator arrives -/
theorem idx_rightL (op : BinOp) (r : Expr) {b : Bool}
    (hb : b = false → needsParenRight op r = false ∨
      (isPrefixExpr r = true ∧ prefixCoreIsExp r = false)) :
    rbp op.toOperator < if b then 400 else idx r := by
  have h400 : rbp op.toOperator < 400 := by rw [(binop_bp op).2]; have := docPrec_le op; omega
  refine if_idx h400 fun h => ?_
  rcases hb h with h | ⟨hp, hc⟩
  · exact idx_right h
  · rcases idx_chain r (by cases r <;> first | rfl | cases hp) with h | ⟨h, _⟩
    · rw [h]; exact h400
    · rw [hc] at h; cases h

theorem needsParenRightL_false {op : BinOp} {r : Expr} {nx : Bool}
    (h : needsParenRightL op r nx = false) :
    needsParenRight op r = false ∨
      (isPrefixExpr r = true ∧ prefixCoreIsExp r = false) := by
  unfold needsParenRightL at h
  by_cases hc : (isExpOp op && isPrefixExpr r && !prefixCoreIsExp r && !nx) = true
  · right
    simp only [Bool.and_eq_true, Bool.not_eq_eq_eq_not, Bool.not_true] at hc
    exact ⟨hc.1.1.2, hc.1.2⟩
  · left
    simpa [hc] using h

theorem toTreeL_op (e : Expr) (nx : Bool) : (toTreeL e nx).op = (toTree e).op := by
  cases e <;> simp only [toTreeL, toTree]

/-- the root of the tree of a bare left operand of a binary operator of precedence `p` binds at
least as tightly -/
theorem toTree_prec {e : Expr} {p : Nat} (h70 : 70 ≤ p) (h120 : p ≤ 120)
    (h : precLt e.headPrec p = false) : p ≤ (toTree e).op.precedence := by
  cases e with
  | bin op l r => rw [toTree, (binop_facts op).2.2.1]; exact Nat.le_of_not_lt (of_decide_eq_false h)
  | assign op x rhs => have := of_decide_eq_false h; simp [assignPrec] at this; omega
  | neg e => exact Nat.le_of_not_lt (of_decide_eq_false h)
  | not e => exact Nat.le_of_not_lt (of_decide_eq_false h)
  | call f a => exact Nat.le_trans h120 (by decide : 120 ≤ 190)
  | _ => exact Nat.le_trans h120 (by decide : 120 ≤ 200)

/-- `t` is the tree of the bare left operand `l` (`toTree l`, `toTreeL l nx`), `x` what stands in
its parentheses otherwise -/
theorem stop_left (op : BinOp) (l : Expr) {t x : Node} (ht : t.op = (toTree l).op) :
    descends (if needsParenLeft op l then ⟨.rootNode, [x]⟩ else t).op op.toOperator false
      = false := by
  obtain ⟨h1, h2, h3, _⟩ := binop_facts op
  have hle := docPrec_le op
  have hp : op.docPrec ≤
      (if needsParenLeft op l then (⟨.rootNode, [x]⟩ : Node) else t).op.precedence := by
    cases hb : needsParenLeft op l with
    | true => exact Nat.le_trans hle (by decide : 120 ≤ 200)
    | false =>
      simp only [Bool.false_eq_true, if_false, ht]
      exact toTree_prec (docPrec_ge op) hle hb
  simp only [descends, h1, h2, h3]
  simp
  omega

end Evalexpr.Spec

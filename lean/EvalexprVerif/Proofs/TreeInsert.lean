/-
Proofs/TreeInsert.lean — what `Node.insertBackPrioritized` does: a successful insertion walks down
the last children and appends the node or puts it in the place of a last child (`Ins`); a failed
one reports `AppendedToLeafNode`, `PrecedenceViolation` or `MissingOperatorOutsideOfBrace`
(`InsErr`), never the `unwrap` panic and never an unmatched parenthesis.
-/
import EvalexprVerif.Model.Tree

namespace Evalexpr.Spec
open Evalexpr

theorem leaf_of_zero {op : Operator} (h : (some 0 == op.maxArgumentAmount) = true) :
    op.isLeaf = true := by
  unfold Operator.isLeaf OpKind.isLeaf
  unfold Operator.maxArgumentAmount at h
  cases hm : op.kind.maxArgumentAmount with
  | none => rw [hm] at h; cases h
  | some k =>
    rw [hm] at h
    have : k = 0 := by simp at h; omega
    subst this; rfl

theorem insertAtLast_snoc (op : Operator) (pre l : List Node) (x node : Node) :
    insertAtLast op pre (l ++ [x]) node = insertAtLast op (pre ++ l) [x] node := by
  induction l generalizing pre with
  | nil => simp
  | cons c l ih =>
    cases l with
    | nil => simp [insertAtLast]
    | cons c2 l' =>
      have h := ih (pre ++ [c])
      simp only [List.cons_append, List.append_assoc, List.nil_append] at h ⊢
      rw [← h]
      conv => lhs; rw [insertAtLast]

inductive Ins (node : Node) : Node → Node → Prop
  | app (op : Operator) (cs : List Node) : Ins node ⟨op, cs⟩ ⟨op, cs ++ [node]⟩
  | down (op : Operator) (pre : List Node) {c c' : Node} : Ins node c c' →
      Ins node ⟨op, pre ++ [c]⟩ ⟨op, pre ++ [c']⟩
  | rot (op : Operator) (pre : List Node) (c : Node) :
      Ins node ⟨op, pre ++ [c]⟩ ⟨op, pre ++ [⟨node.op, node.children ++ [c]⟩]⟩

def InsErr (e : Err) : Prop :=
  e = .appendedToLeafNode ∨ e = .precedenceViolation ∨ e = .missingOperatorOutsideOfBrace

def InsRes (node n : Node) : Res Node → Prop
  | .ok n' => Ins node n n'
  | .error e => InsErr e

/-- `insertAtLast` is only called on a node that is full and not a leaf, so `cs ≠ []` there: the
`unwrap` of `children.last()` cannot fail -/
theorem insert_spec :
    (∀ (n node : Node) (b : Bool), InsRes node n (n.insertBackPrioritized node b)) ∧
    (∀ (op : Operator) (pre cs : List Node) (node : Node), cs ≠ [] →
      InsRes node ⟨op, pre ++ cs⟩ (insertAtLast op pre cs node)) := by
  apply Node.insertBackPrioritized.mutual_induct
  case case1 =>
    -- `self` is a leaf: `AppendedToLeafNode`
    intro op cs node b h1 h2
    simp only [Node.insertBackPrioritized, h1, h2, if_true]; exact .inl rfl
  case case2 =>
    -- `self` has enough children: on to the last one
    intro op cs node b h1 h2 h3 ih
    simp only [Node.insertBackPrioritized, h1, h2, h3, if_true]
    exact ih fun hcs => h2 (leaf_of_zero (by rw [hcs] at h3; exact h3))
  case case3 =>
    -- room left: `self.children.push(node)`
    intro op cs node b h1 h2 h3
    simp only [Node.insertBackPrioritized, h1, h2, h3, if_true, if_false, Bool.false_eq_true]
    exact .app op cs
  case case4 =>
    -- `node` may not go below `self`: `PrecedenceViolation`
    intro op cs node b h1
    simp only [Node.insertBackPrioritized, h1]; exact .inr (.inl rfl)
  case case5 => intro op pre x h; exact absurd rfl h  -- no child: excluded by `cs ≠ []`
  case case6 =>
    -- the last child takes `node`
    intro op pre c node h1 c' h2 ih _
    simp only [insertAtLast, h1, h2, if_true]
    rw [h2] at ih; exact .down op pre ih
  case case7 =>
    -- the last child refuses `node`
    intro op pre c node h1 e' h2 ih _
    simp only [insertAtLast, h1, h2, if_true]
    rw [h2] at ih; exact ih
  case case8 =>
    -- `node` would take the last child's place but is a leaf
    intro op pre c node h1 h2 _
    simp only [insertAtLast, h1, h2, if_true, if_false, Bool.false_eq_true]; exact .inl rfl
  case case13 =>
    -- `node` takes the last child's place, the child goes under it
    intro op pre c node h1 h2 h3 h4 h5 h6 _
    simp only [insertAtLast, h1, h2, h3, h4, h5, h6, if_false, Bool.false_eq_true]
    exact .rot op pre c
  case case14 =>
    -- not yet the last child
    intro op pre c c2 cs node ih _
    rw [insertAtLast]
    have := ih (by simp)
    rwa [List.append_assoc] at this
  -- cases 9–12, the four `RootNode` checks after `children.pop()`: `MissingOperatorOutsideOfBrace`
  all_goals
    intro op pre c node
    intros
    simp only [insertAtLast, *, if_true, if_false, Bool.false_eq_true]
    exact .inr (.inr rfl)

theorem insertBack_ins {n node n' : Node} {b : Bool}
    (h : n.insertBackPrioritized node b = .ok n') : Ins node n n' := by
  have := insert_spec.1 n node b; rwa [h] at this

theorem insertBack_err {n node : Node} {b : Bool} {e : Err}
    (h : n.insertBackPrioritized node b = .error e) : InsErr e := by
  have := insert_spec.1 n node b; rwa [h] at this

theorem Ins.op_eq {node n n' : Node} (h : Ins node n n') : n'.op = n.op := by
  cases h <;> rfl

theorem Ins.children_ne {node n n' : Node} (h : Ins node n n') : n'.children ≠ [] := by
  cases h <;> simp

end Evalexpr.Spec

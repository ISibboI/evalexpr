/-
Proofs/BuiltinBasic.lean — property C10, part 1: the builtins whose model and documented reference
agree by computation once the shape of the argument is known (math functions, float classes,
`typeof`, `if`, `contains`, `contains_any`, `len`, `str::*` without `substring`, bit operations,
`math::abs`). The claim proved of every builtin is `MeetsP`, which asks a little more than the documented `MeetsB`:
the errors are plain. Where both sides reject an argument the proof is `⟨_, rfl, rfl⟩`: the error the model
computes, and that it is plain.
-/
import EvalexprVerif.Spec.RefBuiltin
import EvalexprVerif.Proofs.ValueOps
import EvalexprVerif.Proofs.PlainErrors

namespace Evalexpr.Spec
open Evalexpr

/-- `MeetsB` with "no panic" sharpened to *plain*: where the documentation says error, or claims nothing, an
error is neither a panic nor an unknown-identifier error. The builtins are proved to meet their reference in this
sense, once; `MeetsB` (C10), no panic (C01) and `Clean` (C14) follow (`MeetsP.meetsB`, `MeetsP.plain`). -/
def MeetsP (r : Res Value) : BuiltinRef → Prop
  | .value v => r = .ok v
  | .error => ∃ e, r = .error e ∧ Err.isPlain e = true
  | .any => ∀ e, r = .error e → Err.isPlain e = true
  | ref => MeetsB r ref

theorem MeetsP.meetsB {r : Res Value} {ref : BuiltinRef} (h : MeetsP r ref) : MeetsB r ref := by
  cases ref with
  | error => obtain ⟨e, rfl, hp⟩ := h; exact ⟨e, rfl, Plain.not_panic (r := (.error e : Res Value)) hp⟩
  | any => intro e he; subst he; exact Plain.not_panic (r := (.error e : Res Value)) (h e rfl)
  | _ => exact h

theorem MeetsP.plain {r : Res Value} {ref : BuiltinRef} (h : MeetsP r ref) : Plain r := by
  cases ref with
  | value v => rw [show r = .ok v from h]; trivial
  | error => obtain ⟨e, rfl, hp⟩ := h; exact hp
  | any =>
    cases r with
    | ok v => trivial
    | error e => exact h e rfl
  | smallestOf args | largestOf args => obtain ⟨v, rfl, _⟩ := h; trivial

/-- Binary builtins take their argument apart with `as_fixed_len_tuple(2)`: on a pair `k` runs,
anything else is rejected (the `tuple[i]` panic arm is never reached). -/
theorem meets_pair {k : Value → Value → Res Value} {site : Str} {ref : BuiltinRef} (arg : Value)
    (pair : ∀ a b, arg = .tuple [a, b] → MeetsP (k a b) ref)
    (other : (∀ a b, arg ≠ .tuple [a, b]) → ref = .error) :
    MeetsP
      (match arg.asFixedLenTuple 2 with
        | .ok [a, b] => k a b
        | .ok _ => .error (.panic site)
        | .error e => .error e)
      ref := by
  -- string, float, int, boolean; a tuple of 0, 1, 2, more components; empty
  rcases arg with _ | _ | _ | _ | (_ | ⟨a, _ | ⟨b, _ | ⟨c, r⟩⟩⟩) | _
  case tuple.cons.cons.nil => exact pair a b rfl
  -- no tuple: `ExpectedTuple`; another length: `ExpectedFixedLengthTuple`
  all_goals
    rw [other (by intro _ _ h; cases h)]
    exact ⟨_, rfl, rfl⟩

theorem meets_math1 (f : Float → Float) (arg : Value) : MeetsP (simpleMath1 f arg) (math1 f arg) := by
  cases arg
  case float | int => rfl
  all_goals exact ⟨_, rfl, rfl⟩

theorem meets_pred1 (f : Float → Bool) (arg : Value) : MeetsP (floatIs f arg) (pred1 f arg) := by
  cases arg
  case float | int => rfl
  all_goals exact ⟨_, rfl, rfl⟩

theorem meets_math2 (f : Float → Float → Float) (arg : Value) :
    MeetsP (simpleMath2 f arg) (math2 f arg) := by
  refine meets_pair arg ?pair ?other
  case pair =>
    rintro a b rfl
    cases a
    case float | int =>
      cases b
      case float | int => rfl
      all_goals exact ⟨_, rfl, rfl⟩
    all_goals exact ⟨_, rfl, rfl⟩
  case other =>
    intro h
    unfold math2
    split
    · exact absurd rfl (h _ _)
    · rfl

theorem meets_int2 (f : Int64 → Int64 → Int64) (g : Int64 → Int64 → BuiltinRef)
    (h : ∀ a b, MeetsP (.ok (.int (f a b))) (g a b)) (arg : Value) :
    MeetsP (intFunction2 f arg) (int2 g arg) := by
  refine meets_pair arg ?pair ?other
  case pair =>
    rintro a b rfl
    cases a
    case int =>
      cases b
      case int => exact h _ _
      all_goals exact ⟨_, rfl, rfl⟩
    all_goals exact ⟨_, rfl, rfl⟩
  case other =>
    intro h
    unfold int2
    split
    · exact absurd rfl (h _ _)
    · rfl

/-- `str::to_lowercase`, `str::to_uppercase`, `str::trim` -/
theorem meets_str (g : Str → Str) (arg : Value) :
    MeetsP (arg.asString.map fun s => .string (g s))
      (match arg with | .string s => .value (.string (g s)) | _ => .error) := by
  cases arg
  case string => rfl
  all_goals exact ⟨_, rfl, rfl⟩

theorem C10_bitnot (arg : Value) : MeetsP (Builtin.call .bitnot arg) (refBuiltin .bitnot arg) := by
  cases arg
  case int => rfl
  all_goals exact ⟨_, rfl, rfl⟩

theorem typeofName_eq (v : Value) : typeofName v = typeName v := by cases v <;> rfl
theorem isScalar_eq (v : Value) : isScalar v = scalar v := by cases v <;> rfl

theorem C10_typeof (arg : Value) : MeetsP (Builtin.call .typeof arg) (refBuiltin .typeof arg) := by
  show Except.ok _ = Except.ok _
  rw [typeofName_eq]

theorem C10_if (arg : Value) : MeetsP (Builtin.call .if_ arg) (refBuiltin .if_ arg) := by
  show MeetsP _ (match arg with | .tuple [.boolean c, a, b] => .value (if c then a else b) | _ => .error)
  split
  · rename_i c a b
    cases c <;> rfl
  · rename_i h
    rcases arg with _ | _ | _ | _ | (_ | ⟨c, _ | ⟨a, _ | ⟨b, _ | ⟨d, r⟩⟩⟩⟩) | _
    case tuple.cons.cons.cons.nil =>
      -- three components: the condition is no boolean
      cases c
      case boolean c => exact absurd rfl (h c a b)
      all_goals exact ⟨_, rfl, rfl⟩
    -- no tuple, or not three components
    all_goals exact ⟨_, rfl, rfl⟩

theorem C10_contains (arg : Value) :
    MeetsP (Builtin.call .contains arg) (refBuiltin .contains arg) := by
  refine meets_pair arg ?pair ?other
  case pair =>
    rintro a b rfl
    cases a
    case tuple t =>
      show MeetsP (if isScalar b then _ else _) (if scalar b then _ else _)
      rw [isScalar_eq]
      cases scalar b
      · exact ⟨_, rfl, rfl⟩
      · rfl
    all_goals exact ⟨_, rfl, rfl⟩
  case other =>
    intro h
    show (match arg with | .tuple [.tuple t, v] => _ | _ => _) = _
    split
    · exact absurd rfl (h _ _)
    · rfl

theorem containsAnyLoop_spec (ta : List Value) : ∀ (tb : List Value) (acc : Bool),
    (tb.all scalar = true → containsAnyLoop ta tb acc = .ok (acc || tb.any fun v => ta.any (Value.beq · v))) ∧
    (tb.all scalar = false → ∃ e, containsAnyLoop ta tb acc = .error e ∧ Err.isPlain e = true)
  | [], acc => by simp [containsAnyLoop]
  | v :: rest, acc => by
    have ih := containsAnyLoop_spec ta rest
    cases h : scalar v
    · simp [containsAnyLoop, isScalar_eq, h, Err.isPlain]
    · simp only [containsAnyLoop, isScalar_eq, h, if_true, List.all_cons, Bool.true_and, List.any_cons, tupleContains]
      constructor
      · intro hr
        rw [(ih _).1 hr]
        rcases Bool.eq_false_or_eq_true (ta.any (Value.beq · v)) with hp | hp <;> cases acc <;> simp [hp]
      · intro hr
        exact (ih _).2 hr

theorem C10_containsAny (arg : Value) :
    MeetsP (Builtin.call .containsAny arg) (refBuiltin .containsAny arg) := by
  refine meets_pair arg ?pair ?other
  case pair =>
    rintro a b rfl
    cases a
    case tuple ta =>
      cases b
      case tuple tb =>
        show MeetsP ((containsAnyLoop ta tb false).map .boolean) (if tb.all scalar then _ else _)
        cases h : tb.all scalar
        · obtain ⟨e, he, hp⟩ := (containsAnyLoop_spec ta tb false).2 h
          rw [he]; exact ⟨e, rfl, hp⟩
        · rw [(containsAnyLoop_spec ta tb false).1 h]; rfl
      all_goals exact ⟨_, rfl, rfl⟩
    all_goals exact ⟨_, rfl, rfl⟩
  case other =>
    intro h
    show (match arg with | .tuple [.tuple t, .tuple vs] => _ | _ => _) = _
    split
    · exact absurd rfl (h _ _)
    · rfl

theorem inI64_natAbs (i : Int64) : inI64 (i.toInt.natAbs : Int) = !(i.toInt == -2 ^ 63) := by
  have h1 := Int64.le_toInt i
  have h2 := Int64.toInt_lt i
  rw [Bool.eq_iff_iff]
  simp only [inI64, Bool.and_eq_true, decide_eq_true_eq, Bool.not_eq_true', beq_eq_false_iff_ne, ne_eq]
  omega

theorem C10_abs (arg : Value) : MeetsP (Builtin.call .abs arg) (refBuiltin .abs arg) := by
  cases arg
  case float => rfl
  case int i =>
    show MeetsP ((checkedAbs i).map .int)
      (if i.toInt == -2 ^ 63 then .error else .value (.int (Int64.ofInt i.toInt.natAbs)))
    have hi := inI64_natAbs i
    cases h : i.toInt == -2 ^ 63 <;> rw [h] at hi
    · rw [checkedAbs_of i _ (i64Of_some _ hi)]; rfl
    · rw [checkedAbs_of i _ (i64Of_none _ hi)]; exact ⟨_, rfl, rfl⟩
  all_goals exact ⟨_, rfl, rfl⟩

theorem utf8Len_cons (c : Char) (cs : Str) : utf8Len (c :: cs) = c.utf8Size + utf8Len cs := by
  simp [utf8Len]

theorem utf8Len_nil : utf8Len [] = 0 := rfl

theorem head_mem_byteOffsets (s : Str) (n : Nat) : n ∈ byteOffsets s n := by
  cases s <;> simp [byteOffsets]

theorem byteOffsets_getLast? : ∀ (s : Str) (n : Nat), (byteOffsets s n).getLast? = some (n + utf8Len s)
  | [], n => by simp [byteOffsets, utf8Len]
  | c :: cs, n => by
    have ih := byteOffsets_getLast? cs (n + c.utf8Size)
    have hne := List.ne_nil_of_mem (head_mem_byteOffsets cs (n + c.utf8Size))
    simp only [byteOffsets, utf8Len_cons]
    rw [List.getLast?_cons_of_ne_nil hne] at *
    rw [ih]; congr 1; omega

theorem len_ref_eq (s : Str) : (byteOffsets s 0).getLast?.getD 0 = utf8Len s := by
  simp [byteOffsets_getLast?]

/-- the side condition under which the documentation's `len` claim is meaningful: sizes fit an `i64` -/
def SizeOk : Value → Prop
  | .string s => utf8Len s < 2 ^ 63
  | .tuple t => t.length < 2 ^ 63
  | _ => True

theorem meets_len (arg : Value) (h : SizeOk arg) : MeetsP (Builtin.call .len arg) (refBuiltin .len arg) := by
  cases arg
  case string s =>
    show MeetsP ((intFromUsize (utf8Len s)).map .int) (.value (.int (Int64.ofNat ((byteOffsets s 0).getLast?.getD 0))))
    rw [len_ref_eq, intFromUsize_of_lt h]; rfl
  case tuple t =>
    show MeetsP ((intFromUsize t.length).map .int) _
    rw [intFromUsize_of_lt h]; rfl
  all_goals exact ⟨_, rfl, rfl⟩

theorem plain_intFromUsize (n : Nat) : Plain (intFromUsize n) := by
  unfold intFromUsize
  split
  · trivial
  · rfl

theorem plain_len (arg : Value) : Plain (Builtin.call .len arg) := by
  cases arg
  case string | tuple => exact (plain_map _ _).2 (plain_intFromUsize _)
  all_goals rfl

end Evalexpr.Spec

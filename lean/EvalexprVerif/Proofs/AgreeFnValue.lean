/-
Proofs/AgreeFnValue.lean — the functions of src/value/mod.rs translated on this run (`Generated/FnValue.lean`)
equal the Model's definitions, for all inputs.
-/
import EvalexprVerif.Generated.FnValue
import EvalexprVerif.Translate.Attr

namespace Evalexpr.AgreeFn
open Evalexpr

theorem fn_Value_as_string_agree (v : Value) : Gen.Value.as_string v = v.asString := by cases v <;> eq_refl
theorem fn_Value_as_int_agree (v : Value) : Gen.Value.as_int v = v.asInt := by cases v <;> eq_refl
theorem fn_Value_as_float_agree (v : Value) : Gen.Value.as_float v = v.asFloat := by cases v <;> eq_refl
theorem fn_Value_as_number_agree (v : Value) : Gen.Value.as_number v = v.asNumber := by cases v <;> eq_refl
theorem fn_Value_as_boolean_agree (v : Value) : Gen.Value.as_boolean v = v.asBoolean := by cases v <;> eq_refl
theorem fn_Value_as_tuple_agree (v : Value) : Gen.Value.as_tuple v = v.asTuple := by cases v <;> eq_refl
theorem fn_Value_as_empty_agree (v : Value) : Gen.Value.as_empty v = v.asEmpty := by cases v <;> eq_refl
theorem fn_Value_as_fixed_len_tuple_agree (v : Value) (len : Nat) :
    Gen.Value.as_fixed_len_tuple v len = v.asFixedLenTuple len := by cases v <;> eq_refl

/-- `impl From<String> for Value` (the meaning of `.into()` at `String → Value`) -/
theorem fn_Value_from_String_agree (s : Str) : (Rs.into s : Value) = .string s := rfl
theorem fn_Value_from_float_agree (f : Float) : Gen.Value.from_float f = .float f := rfl
theorem fn_Value_as_ranged_len_tuple_agree (v : Value) (lo hi : Nat) :
    Gen.Value.as_ranged_len_tuple v ⟨lo, hi⟩ = v.asRangedLenTuple lo hi := by cases v <;> eq_refl
theorem fn_Value_str_from_agree (v : Value) : Gen.Value.str_from v = v.strFrom := by cases v <;> eq_refl
/-- `impl From<bool> for Value`, `impl From<&str> for Value` -/
theorem fn_Value_from_bool_agree (b : Bool) : (Rs.into b : Value) = .boolean b := rfl
theorem fn_Value_from_str_agree (s : Str) : Gen.Value.from_str s = .string s := rfl

attribute [rs_agree] fn_Value_as_string_agree fn_Value_as_int_agree fn_Value_as_float_agree fn_Value_as_number_agree
  fn_Value_as_boolean_agree fn_Value_as_tuple_agree fn_Value_as_empty_agree fn_Value_as_fixed_len_tuple_agree
  fn_Value_from_String_agree fn_Value_from_float_agree fn_Value_as_ranged_len_tuple_agree fn_Value_str_from_agree
  fn_Value_from_bool_agree fn_Value_from_str_agree

end Evalexpr.AgreeFn

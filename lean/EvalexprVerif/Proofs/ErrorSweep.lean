/-
Proofs/ErrorSweep.lean — which errors the operator arms and `set_value` can answer with. An error of
the context-free arms and of `set_value` is always *plain* (Proofs/PlainErrors.lean): written out in the
arm from the values at hand, so neither a panic nor one of the two unknown-identifier errors. The same is
proved of the builtins where they are compared with their documentation (`plain_builtin_call`,
Proofs/BuiltinMeets.lean). A clean result is unchanged by renaming variables (`Clean.renameRes`).
-/
import EvalexprVerif.Spec.Idents
import EvalexprVerif.Proofs.EvalOps
import EvalexprVerif.Proofs.PlainErrors

namespace Evalexpr.Spec
open Evalexpr

/-- the result of an operation, with the variable named in an unknown-variable error renamed
(`renameRes` at any type) -/
def rnRes {α : Type} (r : Str → Str) : Res α → Res α
  | .ok v => .ok v
  | .error e => .error (Err.renameVar r e)

theorem renameRes_eq (r : Str → Str) (x : Res Value) : renameRes r x = rnRes r x := by
  cases x <;> rfl

theorem Clean.rnRes {α : Type} {x : Res α} (h : Clean x) (r : Str → Str) : Spec.rnRes r x = x := by
  cases x with
  | ok v => rfl
  | error e =>
    cases e with
    | variableIdentifierNotFound _ => cases h
    | _ => rfl

theorem Clean.renameRes {r : Res Value} (h : Clean r) (ρ : Str → Str) : renameRes ρ r = r :=
  (renameRes_eq ρ r).trans (h.rnRes ρ)

/-- Closes a goal `Plain r` once every `match` of the function has been split, so that `r` is one leaf of
it. Two kinds of leaf, one alternative each:
1. a value, a `map` over a plain callee, or an error written out in the arm: `simp` decides it;
2. an error `e` handed on by an arm `| .error e => .error e`: `split` has left `_ = .error e` about the
   scrutinee, a callee that `simp` knows to be plain (`Plain.of_eq`). -/
macro "err_close" : tactic => `(tactic| first
  | (simp [Err.isPlain, wrongArgs]; done)
  | (refine Plain.of_eq ?_ ‹_ = Except.error _›; simp; done))

/-- splits every `match` / `if` of the unfolded function, then `err_close` on each leaf -/
macro "err_split" : tactic => `(tactic| (repeat' (first | split | dsimp only)) <;> err_close)

@[simp] theorem plain_asString (v : Value) : Plain v.asString := by
  cases v <;> simp [Value.asString, Err.isPlain]
@[simp] theorem plain_asNumber (v : Value) : Plain v.asNumber := by
  cases v <;> simp [Value.asNumber, Err.isPlain]
@[simp] theorem plain_asBoolean (v : Value) : Plain v.asBoolean := by
  cases v <;> simp [Value.asBoolean, Err.isPlain]
@[simp] theorem plain_expectNumberOrString (v : Value) : Plain (expectNumberOrString v) := by
  cases v <;> simp [expectNumberOrString, Err.isPlain]

@[simp] theorem plain_checkedAdd (a b : Int64) : Plain (checkedAdd a b) := by
  unfold checkedAdd; split <;> simp [Err.isPlain]
@[simp] theorem plain_checkedSub (a b : Int64) : Plain (checkedSub a b) := by
  unfold checkedSub; split <;> simp [Err.isPlain]
@[simp] theorem plain_checkedMul (a b : Int64) : Plain (checkedMul a b) := by
  unfold checkedMul; split <;> simp [Err.isPlain]
@[simp] theorem plain_checkedNeg (a : Int64) : Plain (checkedNeg a) := by
  unfold checkedNeg; split <;> simp [Err.isPlain]
@[simp] theorem plain_checkedDiv (a b : Int64) : Plain (checkedDiv a b) := by
  unfold checkedDiv; repeat' split
  all_goals simp [Err.isPlain]
@[simp] theorem plain_checkedRem (a b : Int64) : Plain (checkedRem a b) := by
  unfold checkedRem; repeat' split
  all_goals simp [Err.isPlain]

theorem plain_arith (fi : Int64 → Int64 → Res Int64) (ff : Float → Float → Float)
    (hfi : ∀ a b, Plain (fi a b)) (args : List Value) : Plain (arith fi ff args) := by
  unfold arith
  repeat' split
  -- `simp [hfi]`: the leaf `(fi i j).map .int` of two integers
  all_goals first | err_close | simp [hfi]

theorem plain_compare (c : Cmp) (args : List Value) : Plain (compare c args) := by
  unfold compare; err_split

theorem plain_logic (f : Bool → Bool → Bool) (args : List Value) : Plain (logic f args) := by
  unfold logic; err_split

/-- the two arms that are not plain are the model-internal panics of the two operators that
`Operator.eval` handles itself -/
theorem plain_evalPure {op : Operator} (h : Operator.isPure op = true) (args : List Value) :
    Plain (op.evalPure args) := by
  cases op
  case varRead | fn => cases h
  case sub => exact plain_arith _ _ plain_checkedSub _
  case mul => exact plain_arith _ _ plain_checkedMul _
  case div => exact plain_arith _ _ plain_checkedDiv _
  case mod => exact plain_arith _ _ plain_checkedRem _
  case gt | lt | geq | leq => exact plain_compare _ _
  case and | or => exact plain_logic _ _
  case assign | addAssign | subAssign | mulAssign | divAssign | modAssign | expAssign | andAssign
      | orAssign => rfl
  case tuple => trivial
  case rootNode | add | neg | exp | eq | neq | not | chain | const | varWrite =>
    simp only [Operator.evalPure]
    err_split

theorem plain_hashMap_setValue (h : HashMapCtx) (id : Str) (v : Value) : Plain (h.setValue id v) := by
  unfold HashMapCtx.setValue
  split
  · split
    · trivial
    · unfold Err.expectedType; split <;> rfl
  · trivial

theorem plain_ctx_setValue (c : Ctx) (id : Str) (v : Value) : Plain (c.setValue id v) := by
  cases c with
  | hashMap h => simp [Ctx.setValue, plain_hashMap_setValue]
  | _ => rfl

end Evalexpr.Spec

/-
Proofs/EvalOnce.lean — the counting form of property C08: every user-function application site of
a tree is executed exactly once, in post-order, on a successful evaluation; on a failing one the
calls made are a prefix of that list; evaluation never changes the set of user functions; every
node's operator is applied exactly once on success.

One invariant (`Once`) is shown for the walk `evalG ap`, for every `ap` whose single applications
satisfy it; the statements about `Node.evalMut` and `Node.evalRO` are read off it.
-/
import EvalexprVerif.Spec.Once
import EvalexprVerif.Proofs.EvalOps
import EvalexprVerif.Proofs.EvalInduction

namespace Evalexpr.Spec
open Evalexpr

mutual
theorem fnCalls_eq_length (c : Ctx) (n : Node) : fnCalls c n = (callSites c n).length :=
  match n with
  | ⟨op, cs⟩ => by
    rw [fnCalls, callSites, List.length_append, fnCallsList_eq_length c cs]
theorem fnCallsList_eq_length (c : Ctx) (cs : List Node) :
    fnCallsList c cs = (callSitesList c cs).length :=
  match cs with
  | [] => by rw [fnCallsList, callSitesList]; rfl
  | n :: ns => by
    rw [fnCallsList, callSitesList, List.length_append, fnCalls_eq_length c n,
      fnCallsList_eq_length c ns]
end

theorem opSite_congr (c c' : Ctx) (h : ∀ id, c'.userFn id = c.userFn id) (op : Operator) :
    opSite c' op = opSite c op := by
  cases op with
  | fn id => simp only [opSite, h id]
  | _ => rfl

mutual
theorem callSites_congr (c c' : Ctx) (h : ∀ id, c'.userFn id = c.userFn id) (n : Node) :
    callSites c' n = callSites c n :=
  match n with
  | ⟨op, cs⟩ => by
    rw [callSites, callSites, callSitesList_congr c c' h cs, opSite_congr c c' h op]
theorem callSitesList_congr (c c' : Ctx) (h : ∀ id, c'.userFn id = c.userFn id)
    (cs : List Node) : callSitesList c' cs = callSitesList c cs :=
  match cs with
  | [] => by rw [callSitesList, callSitesList]
  | n :: ns => by
    rw [callSitesList, callSitesList, callSites_congr c c' h n, callSitesList_congr c c' h ns]
end

def resOk {α : Type} : Res α → Bool
  | .ok _ => true
  | .error _ => false

/-- Going from `s` to `s'` kept the user functions and appended to the log calls whose names `p`
are a prefix of `sites`, all of `sites` if the step succeeded. -/
def Once (sites : List Str) (s : St) (ok : Bool) (s' : St) : Prop :=
  SameFns s s' ∧
    ∃ p, logNames s'.log = logNames s.log ++ p ∧ p <+: sites ∧ (ok = true → p = sites)

theorem Once.silent {s s' : St} (hf : SameFns s s') (hl : s'.log = s.log) (ok : Bool) :
    Once [] s ok s' :=
  ⟨hf, [], by rw [hl, List.append_nil], List.prefix_refl _, fun _ => rfl⟩

theorem Once.stay (s : St) (ok : Bool) : Once [] s ok s := .silent (.refl s) rfl ok

theorem Once.fail (sites : List Str) (s : St) : Once sites s false s :=
  ⟨.refl s, [], by simp, List.nil_prefix, fun h => by cases h⟩

theorem Once.fail_left {a : List Str} (b : List Str) {s s₁ : St} (h : Once a s false s₁) :
    Once (a ++ b) s false s₁ := by
  rcases h with ⟨hf, p, hp, hpre, _⟩
  exact ⟨hf, p, hp, hpre.trans (List.prefix_append a b), fun h => by cases h⟩

theorem Once.seq {a b : List Str} {s s₁ s₂ : St} {ok : Bool} (h₁ : Once a s true s₁)
    (h₂ : Once b s₁ ok s₂) : Once (a ++ b) s ok s₂ := by
  rcases h₁ with ⟨hf₁, p₁, hp₁, _, hall₁⟩
  rcases h₂ with ⟨hf₂, p₂, hp₂, hpre₂, hall₂⟩
  have e₁ : p₁ = a := hall₁ rfl
  subst e₁
  refine ⟨hf₁.trans hf₂, p₁ ++ p₂, ?_, ?_, ?_⟩
  · rw [hp₂, hp₁, List.append_assoc]
  · exact (List.prefix_append_right_inj p₁).mpr hpre₂
  · intro h; rw [hall₂ h]

theorem Once.prefix {sites : List Str} {s s' : St} {ok : Bool} (h : Once sites s ok s') :
    ∃ p, p <+: sites ∧ logNames s'.log = logNames s.log ++ p := by
  rcases h with ⟨_, p, hp, hpre, _⟩
  exact ⟨p, hpre, hp⟩

theorem Once.order {sites : List Str} {s s' : St} (h : Once sites s true s') :
    logNames s'.log = logNames s.log ++ sites := by
  rcases h with ⟨_, p, hp, _, hall⟩
  rw [hp, hall rfl]

theorem Once.length {sites : List Str} {s s' : St} {ok : Bool} (h : Once sites s ok s') :
    s'.log.length ≤ s.log.length + sites.length ∧
      (ok = true → s'.log.length = s.log.length + sites.length) := by
  rcases h with ⟨_, p, hp, hpre, hall⟩
  have := congrArg List.length hp
  rw [List.length_append, logNames, logNames, List.length_map, List.length_map] at this
  rw [this]
  exact ⟨Nat.add_le_add_left hpre.length_le _, fun h => by rw [hall h]⟩

theorem callFunction_once (id : Str) (arg : Value) (s : St) :
    Once (opSite s.ctx (.fn id)) s (resOk (callFunction id arg s).1) (callFunction id arg s).2 := by
  rw [callFunction_snd]
  cases h : s.ctx.userFn id with
  | none =>
    simp only [opSite, h, Option.isSome_none, Bool.false_eq_true, if_false]
    exact Once.stay s _
  | some f =>
    simp only [opSite, h, Option.isSome_some, if_true]
    exact ⟨.refl s, [id], by simp [logNames], List.prefix_refl _, fun _ => rfl⟩

theorem eval_op_once (op : Operator) (args : List Value) (s : St) :
    Once (opSite s.ctx op) s (resOk (op.eval args s).1) (op.eval args s).2 := by
  cases op with
  | fn id =>
    simp only [Operator.eval]
    split
    · exact callFunction_once id _ s -- one argument
    · exact Once.fail _ s -- wrong number of arguments: the site is not reached
  | varRead id =>
    simp only [Operator.eval]
    split
    · split <;> exact Once.stay s _ -- no argument: the variable is there or not
    · exact Once.stay s _ -- wrong number of arguments
  | _ => exact Once.stay s _

theorem opSite_of_assign (c : Ctx) (op : Operator) (h : Operator.isAssignKind op = true) :
    opSite c op = [] := by
  -- `rfl` for every operator but `fn`, for which `h` is false
  cases op <;> first | rfl | cases h

/-- an assignment calls nothing: the operator an op-assign applies is never a function -/
theorem evalMut_op_once (op : Operator) (args : List Value) (s : St) :
    Once (opSite s.ctx op) s (resOk (op.evalMut args s).1) (op.evalMut args s).2 := by
  cases hk : Operator.isAssignKind op with
  | false => rw [evalMut_of_not_assign op args s hk]; exact eval_op_once op args s
  | true =>
    rw [opSite_of_assign s.ctx op hk]
    rcases evalMut_assign_shape op args s hk with ⟨e, h⟩ | ⟨id, v, c, _, h⟩
    all_goals exact .silent (evalMut_op_sameFns op args s) (by rw [h]) _

theorem evalG_once (ap : Operator → List Value → St → Res Value × St)
    (hap : ∀ op args s, Once (opSite s.ctx op) s (resOk (ap op args s).1) (ap op args s).2) :
    (∀ n s, Once (callSites s.ctx n) s (resOk (evalG ap n s).1) (evalG ap n s).2) ∧
      ∀ cs s, Once (callSitesList s.ctx cs) s (resOk (evalGList ap cs s).1) (evalGList ap cs s).2 :=
  evalG_ind ap (P := fun n s p => Once (callSites s.ctx n) s (resOk p.1) p.2)
    (PL := fun cs s p => Once (callSitesList s.ctx cs) s (resOk p.1) p.2)
    (apply := fun op cs s args s' h => by
      rw [callSites]
      exact h.seq (opSite_congr s.ctx s'.ctx h.1.1 op ▸ hap op args s'))
    (childError := fun op cs s e s' h => by rw [callSites]; exact h.fail_left _)
    (nil := fun s => by rw [callSitesList]; exact Once.stay s _)
    (consError := fun c cs s e s' h => by rw [callSitesList]; exact h.fail_left _)
    (consOk := fun c cs s s₁ s₂ v vs h h2 => by
      rw [callSitesList]
      exact h.seq (callSitesList_congr s.ctx s₁.ctx h.1.1 cs ▸ h2))
    (consOkError := fun c cs s s₁ s₂ v e h h2 => by
      rw [callSitesList]
      exact h.seq (callSitesList_congr s.ctx s₁.ctx h.1.1 cs ▸ h2))

theorem evalGList_once (ap : Operator → List Value → St → Res Value × St)
    (hap : ∀ op args s, Once (opSite s.ctx op) s (resOk (ap op args s).1) (ap op args s).2)
    (cs : List Node) (s : St) :
    Once (callSitesList s.ctx cs) s (resOk (evalGList ap cs s).1) (evalGList ap cs s).2 :=
  (evalG_once ap hap).2 cs s

theorem evalMut_once (n : Node) (s : St) :
    Once (callSites s.ctx n) s (resOk (n.evalMut s).1) (n.evalMut s).2 := by
  rw [evalMut_eq_evalG]; exact (evalG_once _ evalMut_op_once).1 n s

theorem evalRO_once (n : Node) (s : St) :
    Once (callSites s.ctx n) s (resOk (n.evalRO s).1) (n.evalRO s).2 := by
  rw [evalRO_eq_evalG]; exact (evalG_once _ eval_op_once).1 n s

theorem C08_once_order (n : Node) (s s' : St) (v : Value) (h : n.evalMut s = (.ok v, s')) :
    s'.log.map (·.1) = s.log.map (·.1) ++ callSites s.ctx n := by
  have := evalMut_once n s
  rw [h] at this
  exact this.order

theorem C08_once_count (n : Node) (s s' : St) (v : Value) (h : n.evalMut s = (.ok v, s')) :
    s'.log.length = s.log.length + fnCalls s.ctx n := by
  have := evalMut_once n s
  rw [h] at this
  rw [fnCalls_eq_length]
  exact this.length.2 rfl

theorem C08_once_prefix (n : Node) (s s' : St) (e : Err) (h : n.evalMut s = (.error e, s')) :
    ∃ p, p <+: callSites s.ctx n ∧ s'.log.map (·.1) = s.log.map (·.1) ++ p := by
  have := evalMut_once n s
  rw [h] at this
  exact this.prefix

theorem C08_at_most_once (n : Node) (s : St) :
    (n.evalMut s).2.log.length ≤ s.log.length + fnCalls s.ctx n := by
  rw [fnCalls_eq_length]
  exact (evalMut_once n s).length.1

/-- what the instrumented evaluator guarantees: result and state are those of the evaluator, the
counter is at most `size`, and equal to it on success -/
def Counted {α : Type} (size : Nat) (p : Res α × St × Nat) (q : Res α × St) : Prop :=
  (p.1, p.2.1) = q ∧ p.2.2 ≤ size ∧ (resOk q.1 = true → p.2.2 = size)

mutual
theorem evalMutCount_counted (n : Node) (s : St) :
    Counted (nodeSize n) (evalMutCount n s) (n.evalMut s) :=
  match n with
  | ⟨op, cs⟩ => by
    have ih := evalMutCountList_counted cs s
    rw [evalMutCount, Node.evalMut, nodeSize]
    rcases hc : evalMutCountList cs s with ⟨r, s', k⟩
    rw [hc] at ih
    rcases ih with ⟨h₁, h₂, h₃⟩
    simp only at h₁ h₂ h₃
    rw [← h₁] at h₃ ⊢
    cases r with
    | error e => exact ⟨rfl, Nat.le_succ_of_le h₂, fun h => by cases h⟩
    | ok args =>
      have hk : k = nodeSizeList cs := h₃ rfl
      exact ⟨rfl, by simp only [hk]; exact Nat.le_refl _, fun _ => by simp only [hk]⟩
theorem evalMutCountList_counted (cs : List Node) (s : St) :
    Counted (nodeSizeList cs) (evalMutCountList cs s) (evalMutList cs s) :=
  match cs with
  | [] => by
    rw [evalMutCountList, evalMutList, nodeSizeList]
    exact ⟨rfl, Nat.le_refl _, fun _ => rfl⟩
  | c :: cs => by
    have ih := evalMutCount_counted c s
    rw [evalMutCountList, evalMutList, nodeSizeList]
    rcases hc : evalMutCount c s with ⟨r, s₁, k⟩
    rw [hc] at ih
    rcases ih with ⟨h₁, h₂, h₃⟩
    simp only at h₁ h₂ h₃
    rw [← h₁] at h₃ ⊢
    cases r with
    | error e => exact ⟨rfl, Nat.le_trans h₂ (Nat.le_add_right _ _), fun h => by cases h⟩
    | ok v =>
      have hk : k = nodeSize c := h₃ rfl
      have ih2 := evalMutCountList_counted cs s₁
      rcases hc2 : evalMutCountList cs s₁ with ⟨r2, s₂, k'⟩
      rw [hc2] at ih2
      rcases ih2 with ⟨g₁, g₂, g₃⟩
      simp only at g₁ g₂ g₃
      simp only [hc2]
      rw [← g₁] at g₃ ⊢
      cases r2 with
      | error e =>
        exact ⟨rfl, by simp only [hk]; exact Nat.add_le_add_left g₂ _, fun h => by cases h⟩
      | ok vs =>
        have hk' : k' = nodeSizeList cs := g₃ rfl
        exact ⟨rfl, by simp only [hk, hk']; exact Nat.le_refl _, fun _ => by simp only [hk, hk']⟩
end

theorem C08_ops_once (n : Node) (s s' : St) (v : Value) (h : n.evalMut s = (.ok v, s')) :
    (evalMutCount n s).2.2 = nodeSize n := by
  have := (evalMutCount_counted n s).2.2
  rw [h] at this
  exact this rfl

end Evalexpr.Spec

/-
Translate/Prelude.lean — the meaning of the Rust constructs and of the Rust `std` / language-level
names that the function bodies translated by /verif/translate_fn.py use, over the Model's types.

This file is HAND-WRITTEN and TRUSTED (together with translate_fn.py and its boundary table): the
generated definitions in `Generated/Fn*.lean` are a mechanical rendering of the Rust bodies into the
vocabulary defined here.

Conventions
* references, derefs, `clone()`, `cloned()`, `to_string()` on a `String`/`&str` are the identity;
* `usize` is `Nat` (no overflow: the only arithmetic on it in the translated code is a capacity hint);
* a Rust expression inside a function with return type `ρ` evaluates to `Flow ρ α`: a value, or an
  early `return`. `?` is the early return of `.error e`; a panic (slice index out of bounds,
  `Option::unwrap` on `None`, `unreachable!`) is the early return of `.error (.panic site)` like in
  the Model (therefore only available in functions that return a `Res`);
* functions with a context parameter (`&C` / `&mut C`) pass the Model's evaluation state:
  `St → ρ × St`; inside their bodies expressions are `M ρ α = St → Flow ρ α × St`, so an early
  return keeps the state reached so far.
-/
import EvalexprVerif.Model.Eval

namespace Evalexpr.Rs

/-! ### control flow -/

/-- outcome of evaluating a Rust expression in a function returning `ρ` -/
inductive Flow (ρ α : Type) where
  | val (a : α)
  | ret (r : ρ)

instance : Monad (Flow ρ) where
  pure a := .val a
  bind x f := match x with
    | .val a => f a
    | .ret r => .ret r

/-- the function boundary: an early return and the value of the body are both the result -/
def Flow.run : Flow ρ ρ → ρ
  | .val a => a
  | .ret r => r

/-- expressions of a function that has a context parameter -/
def M (ρ α : Type) : Type := St → Flow ρ α × St

instance : Monad (M ρ) where
  pure a := fun s => (.val a, s)
  bind x f := fun s => match x s with
    | (.val a, s) => f a s
    | (.ret r, s) => (.ret r, s)

def M.run (x : M ρ ρ) : St → ρ × St := fun s =>
  match x s with
  | (.val a, s) => (a, s)
  | (.ret r, s) => (r, s)

/-- calling a function that has a context parameter, passing the context on -/
def call (f : St → α × St) : M ρ α := fun s =>
  match f s with
  | (a, s) => (.val a, s)

/-- calling a context function on a temporary context built in place (`&mut HashMapContext::new()`):
the callee runs on a state of its own (that `HashMapContext`, empty call log); only its result is
used, the temporary is dropped -/
def call_fresh (h : HashMapCtx) (f : St → α × St) : α := (f { ctx := .hashMap h, log := [] }).1

class MonadFlow (ρ : outParam Type) (m : Type → Type) where
  liftFlow : Flow ρ α → m α

instance : MonadFlow ρ (Flow ρ) := ⟨fun x => x⟩
instance : MonadFlow ρ (M ρ) := ⟨fun x s => (x, s)⟩

/-- `return e` -/
def ret [MonadFlow ρ m] (r : ρ) : m α := MonadFlow.liftFlow (Flow.ret r)

/-- return types that can carry an error (`?`, panics): a `Result`, or the outcome of a loop body (`LoopOut`, below)
in a function that returns one -/
class ErrRet (ρ : Type) where
  ofErr : Err → ρ
instance : ErrRet (Res β) := ⟨fun e => .error e⟩

/-- `e?` on a `Result` (the `From` conversion of the error is the identity: one error type) -/
def «try» [MonadFlow ρ m] [ErrRet ρ] (e : Res α) : m α :=
  MonadFlow.liftFlow (match e with
    | .ok a => Flow.val a
    | .error err => Flow.ret (ErrRet.ofErr err))

/-- a panic -/
def panic [MonadFlow ρ m] [ErrRet ρ] (site : Str) : m α :=
  MonadFlow.liftFlow (Flow.ret (ErrRet.ofErr (.panic site)))

/-- `a[i]` on a slice / `Vec` -/
def index [MonadFlow ρ m] [ErrRet ρ] (site : Str) (a : List α) (i : Nat) : m α :=
  MonadFlow.liftFlow (match a[i]? with
    | some v => Flow.val v
    | none => Flow.ret (ErrRet.ofErr (.panic site)))

/-- `Option::unwrap` -/
def unwrap [MonadFlow ρ m] [ErrRet ρ] (site : Str) (o : Option α) : m α :=
  MonadFlow.liftFlow (match o with
    | some v => Flow.val v
    | none => Flow.ret (ErrRet.ofErr (.panic site)))

/-- `for x in xs { body }` over a slice / `Vec`: a left fold in the expression monad; the loop state is
the tuple of the local variables the body assigns (an early return inside the body ends the loop) -/
def forIn [Monad m] (l : List α) (init : σ) (f : α → σ → m σ) : m σ :=
  match l with
  | [] => pure init
  | a :: l => f a init >>= fun s => forIn l s f

/-- `loop { body }` (left only through `return`), in a function without context: iterate `body` on the loop state.
The function takes its fuel as an explicit parameter: when the fuel runs out the function ends with
`.error (.panic site)` — the result says "not finished within `fuel` iterations", nothing is assumed about
termination (the agreement theorems prove how much fuel suffices). -/
def loop (site : Str) : Nat → σ → (σ → Flow (Res β) σ) → Flow (Res β) α
  | 0, _, _ => .ret (.error (.panic site))
  | n + 1, s, f => match f s with
    | .val s' => loop site n s' f
    | .ret r => .ret r

/-! ### loops with `break` / `continue` (`while`, `while let`, `for` over an iterator) -/

/-- how one run of a loop body ends: normally / `continue` (next iteration), `break`, or a `return` of the function -/
inductive LoopOut (ρ σ : Type) where
  | cont (s : σ)
  | brk (s : σ)
  | ret (r : ρ)
/-- `?` and panics inside a loop body leave the loop as a `return` of the error -/
instance [ErrRet ρ] : ErrRet (LoopOut ρ σ) := ⟨fun e => .ret (ErrRet.ofErr e)⟩

/-- `while c { body }` / `while let p = e { body }` / `for x in iterator { body }`: `body` (with the loop test inside:
a failed test is a `break`) is run on the loop state until it breaks; at most `fuel` times — when the fuel runs out the
function ends with the error `.panic site` (nothing is assumed about termination; see `loop` above). -/
def loopB [ErrRet ρ] (site : Str) : Nat → σ → (σ → LoopOut ρ σ) → Flow ρ σ
  | 0, _, _ => .ret (ErrRet.ofErr (.panic site))
  | n + 1, s, f => match f s with
    | .cont s' => loopB site n s' f
    | .brk s' => .val s'
    | .ret r => .ret r

/-- a function with `&mut` cursor parameters hands the advanced cursors back with its value -/
def attach (r : Res α) (st : σ) : Res (α × σ) := r.map (fun a => (a, st))

/-! ### character iterators: a cursor is the list of the remaining characters -/
/-- `str::chars` -/
def chars (s : Str) : List Char := s
/-- `Peekable::peek` -/
def peek (it : List α) : Option α := it.head?
/-- `v[a..]`: the rest of the slice from index `a`; panics when `a > len` -/
def slice_from [MonadFlow ρ m] [ErrRet ρ] (site : Str) (v : List α) (a : Nat) : m (List α) :=
  MonadFlow.liftFlow (if a ≤ v.length then Flow.val (v.drop a) else Flow.ret (ErrRet.ofErr (.panic site)))

/-- the explicit stack of `NodeIter` / `OperatorIterMut` (src/tree/iter.rs): a `Vec` (top = last element) of slice
iterators, each the list of the children still to be visited -/
structure IterStack where
  stack : List (List Node)
/-- `slice::Iter::next` / `IterMut::next`: the first remaining item and the rest -/
def iter_next (it : List α) : Option α × List α :=
  match it with
  | [] => (none, [])
  | a :: rest => (some a, rest)
/-- writing through `v.last_mut()`: the vector with its last element replaced -/
def set_last (v : List α) (x : α) : List α := v.dropLast ++ [x]
/-- `Vec::pop`: the vector without its last element -/
def pop_back (v : List α) : List α := v.dropLast

/-- termination measure of the recursive functions over `Node` (a proved fact, used by the generated
`decreasing_by`) -/
theorem node_lt {child self : Node} (h : child ∈ self.children) : sizeOf child < sizeOf self := by
  cases self with | mk op cs =>
  have := List.sizeOf_lt_of_mem h
  simp at *
  omega

/-- `Function::new(closure)` (src/function/mod.rs boxes the closure): the function itself -/
def Function_new (f : Value → Res Value) : UserFn := f

/-- `a..b` and `a..=b` on `usize` -/
structure Range where
  lo : Nat
  hi : Nat
structure RangeInclusive where
  lo : Nat
  hi : Nat
/-- `RangeInclusive::contains` -/
def RangeInclusive.contains (r : RangeInclusive) (x : Nat) : Bool := r.lo ≤ x && x ≤ r.hi
/-- `usize::MAX` (64-bit platform) -/
def usize_MAX : Nat := 2 ^ 64 - 1
/-- the two error variants whose Rust field is a `RangeInclusive<usize>`: the Model stores the two bounds -/
def Err_wrongFunctionArgumentAmount (expected : RangeInclusive) (actual : Nat) : Err :=
  .wrongFunctionArgumentAmount expected.lo expected.hi actual
def Err_expectedRangedLengthTuple (expected_length : RangeInclusive) (actual : Value) : Err :=
  .expectedRangedLengthTuple expected_length.lo expected_length.hi actual

/-- `Vec::swap_remove(i)` used for its result only: the element at `i` (panics when out of bounds) -/
def swap_remove [MonadFlow ρ m] [ErrRet ρ] (site : Str) (a : List α) (i : Nat) : m α := index site a i

/-! ### identity conversions -/

def clone (a : α) : α := a
/-- `Option<&T>::cloned` -/
def cloned {φ : Type} (a : φ) : φ := a
/-- `iter()` on a slice / `Vec` / `HashMap`: an iterator is the list of the items it yields; for a `HashMap` the
items are the (key, value) pairs in the order of the association list (Rust leaves the order unspecified) -/
def iter (a : List α) : List α := a
/-- `HashMap::keys` -/
def keys (m : List (κ × β)) : List κ := m.map (·.1)
/-- `std::iter::empty()` -/
def iter_empty : List α := []

/-- `x.into()` / `T::from(x)`; the target type is fixed by the context -/
class Into (α β : Type) where
  into : α → β
export Into (into)

/-- `Default::default()`; the type is fixed by the context -/
class Default (α : Type) where
  default : α
export Default (default)
/-- `HashMap::default()`, `Vec::default()` -/
instance : Default (List α) := ⟨[]⟩

/-- `&[T]` → `Vec<T>` -/
instance : Into (List α) (List α) := ⟨fun a => a⟩

/-! ### `std` on slices, `Vec`, `Option`, `Result`, `String` -/

class Len (α : Type) where
  len : α → Nat
export Len (len)
/-- `<[T]>::len`, `Vec::len` -/
instance : Len (List Value) := ⟨List.length⟩
/-- `String::len`: the length in bytes (UTF-8) -/
instance : Len Str := ⟨utf8Len⟩

/-- `<[T]>::is_empty` -/
def is_empty (a : List α) : Bool := a.isEmpty
/-- `<[T]>::first` -/
def first (a : List α) : Option α := a.head?
/-- `<[T]>::last` -/
def last (a : List α) : Option α := a.getLast?
/-- `get`: `<[T]>::get(i)` on slices, `HashMap::get(key)` on the association lists that model hash maps -/
class Get (κ : Type) (c : Type) (v : outParam Type) where
  get : c → κ → Option v
export Get (get)
instance : Get Nat (List α) α := ⟨fun a i => a[i]?⟩
instance : Get Str (List (Str × β)) β := ⟨fun m k => alookup k m⟩
/-- `str::get(a..b)`: the substring between two byte offsets, `None` unless both are character boundaries in range -/
instance : Get Range Str Str := ⟨fun s r => sliceBytes s r.lo r.hi⟩
/-- `HashMap::insert` (the returned previous value is not used by the translated code) -/
def insert (m : List (Str × β)) (k : Str) (v : β) : List (Str × β) := ainsert k v m
/-- `HashMap::clear`, `Vec::clear` -/
def clear (_ : List α) : List α := []
/-- calling a stored function: `Function::call` (src/function/mod.rs `(self.function)(argument)`) is the
application of the function -/
def fn_call (f : UserFn) (a : Value) : Res Value := f a
/-- `Option::unwrap_or` -/
def unwrap_or (o : Option α) (d : α) : α :=
  match o with
  | some v => v
  | none => d
/-- `Vec::push` (`&mut self`: the new vector) -/
def push (a : List α) (x : α) : List α := a ++ [x]

class Map (f : Type → Type) where
  map : f α → (α → β) → f β
export Map (map)
/-- `Result::map` -/
instance : Map Res := ⟨fun r f => Except.map f r⟩
/-- `Option::map` -/
instance : Map Option := ⟨fun o f => Option.map f o⟩
/-- `Iterator::map` -/
instance : Map List := ⟨fun l f => List.map f l⟩

/-- `str::strip_prefix` -/
def strip_prefix (s p : Str) : Option Str := if p.isPrefixOf s then some (s.drop p.length) else none
/-- `str::starts_with(|c| …)` -/
def starts_with (s : Str) (f : Char → Bool) : Bool :=
  match s with
  | c :: _ => f c
  | [] => false
/-- `Result::ok` -/
def ok (r : Except ε α) : Option α :=
  match r with
  | .ok a => some a
  | .error _ => none
/-- `Option::flatten` -/
def flatten (o : Option (Option α)) : Option α :=
  match o with
  | some x => x
  | none => none
/-- `bool::then` -/
def bool_then (b : Bool) (f : Unit → α) : Option α := if b then some (f ()) else none
/-- `Vec::extend` from an `Option` (an iterator of at most one item) -/
def extend (v : List α) (o : Option α) : List α := v ++ o.toList
/-- `str::parse::<f64>` (`f64::from_str`), `str::parse::<bool>`, `i64::from_str`, `i64::from_str_radix(_, 16)`: the Model's
parsers; the std error values carry no information -/
def ofOption (o : Option α) : Except Unit α :=
  match o with
  | some a => .ok a
  | none => .error ()
def parse_f64 (s : Str) : Except Unit Float := ofOption (F64.parse s)
def parse_bool (s : Str) : Except Unit Bool := ofOption (parseBool s)
def i64_from_str (s : Str) : Except Unit Int64 := ofOption (F64.parseDec s)
/-- only radix 16 is modelled (any other radix: an error value, and the agreement proofs fail) -/
def i64_from_str_radix (s : Str) (radix : Nat) : Except Unit Int64 :=
  if radix == 16 then ofOption (F64.parseHex s) else .error ()

/-- `Option::ok_or` -/
def ok_or (o : Option α) (e : ε) : Except ε α :=
  match o with
  | some a => .ok a
  | none => .error e
/-- `contains`: `[T]::contains` on values (derived `PartialEq`), `RangeInclusive::contains` -/
class Contains (c : Type) (a : outParam Type) where
  contains : c → a → Bool
export Contains (contains)
instance : Contains (List Value) Value := ⟨tupleContains⟩
instance : Contains RangeInclusive Nat := ⟨RangeInclusive.contains⟩
/-- `str::to_lowercase`, `str::to_uppercase`, `str::trim`: the Model's functions (modelled alphabet, see Model/Builtin.lean) -/
def to_lowercase (s : Str) : Str := strToLower s
def to_uppercase (s : Str) : Str := strToUpper s
def trim (s : Str) : Str := trimStr s
/-- `ToString::to_string` (`Display`): identity on strings; the Model's `Display` images otherwise -/
class ToString (α : Type) where
  to_string : α → Str
export ToString (to_string)
instance : ToString Str := ⟨fun s => s⟩
instance : ToString Char := ⟨fun c => [c]⟩
/-- `Display for PartialToken` (src/token/display.rs, not translated): the Model's image -/
instance : ToString PartialToken := ⟨PartialToken.display⟩
instance : ToString Float := ⟨F64.display⟩
instance : ToString Int64 := ⟨F64.intDisplay⟩
instance : ToString Bool := ⟨fun b => if b then cl!"true" else cl!"false"⟩
instance : ToString Value := ⟨Value.display⟩
/-- `min` / `max`: `Ord::min` / `Ord::max` on the int type; on the float type the instance is the translated
`EvalexprFloat::min` / `max` (registered by Generated/FnNumeric.lean) -/
class Min (α : Type) where
  min : α → α → α
export Min (min)
class Max (α : Type) where
  max : α → α → α
export Max (max)
/-- `Ord::min(a, b)`: `b` if `a > b`, else `a`;  `Ord::max(a, b)`: `a` if `a > b`, else `b` -/
instance : Min Int64 := ⟨fun a b => if a.toInt > b.toInt then b else a⟩
instance : Max Int64 := ⟨fun a b => if a.toInt > b.toInt then a else b⟩

/-- `Vec::new()` -/
def Vec.new : List α := []
/-- `String::with_capacity(n)` -/
def String.with_capacity (_ : Nat) : Str := []
/-- `String::push_str` (`&mut self`: the new string) -/
def push_str (s t : Str) : Str := s ++ t

/-! ### `std` on `i64` / `usize` / `u64`: Int range arithmetic on `Int64.toInt` -/

/-- `i64::checked_add` … : `None` when the exact result does not fit -/
def i64_checked_add (a b : Int64) : Option Int64 := i64Of (a.toInt + b.toInt)
def i64_checked_sub (a b : Int64) : Option Int64 := i64Of (a.toInt - b.toInt)
def i64_checked_mul (a b : Int64) : Option Int64 := i64Of (a.toInt * b.toInt)
def i64_checked_neg (a : Int64) : Option Int64 := i64Of (-a.toInt)
def i64_checked_abs (a : Int64) : Option Int64 := i64Of a.toInt.natAbs
/-- `i64::checked_div`: `None` for a zero divisor and on overflow (`MIN / -1`); truncating division -/
def i64_checked_div (a b : Int64) : Option Int64 :=
  if b.toInt == 0 then none else i64Of (a.toInt.tdiv b.toInt)
/-- `i64::checked_rem`: `None` for a zero divisor and for `MIN % -1` -/
def i64_checked_rem (a b : Int64) : Option Int64 :=
  if b.toInt == 0 then none
  else if a.toInt == -2 ^ 63 && b.toInt == -1 then none
  else i64Of (a.toInt.tmod b.toInt)
/-- `BitAnd::bitand`, `BitOr::bitor`, `BitXor::bitxor`, `Not::not` on `i64` -/
def bitand (a b : Int64) : Int64 := a &&& b
def bitor (a b : Int64) : Int64 := a ||| b
def bitxor (a b : Int64) : Int64 := a ^^^ b
def bitnot (a : Int64) : Int64 := ~~~a

/-- `x as T` between numeric types -/
class Cast (α β : Type) where
  cast : α → β
export Cast (cast)
/-- `i64 as f64`: nearest float -/
instance : Cast Int64 Float := ⟨Int64.toFloat⟩
/-- `f64 as i64`: truncating, saturating, NaN ↦ 0 -/
instance : Cast Float Int64 := ⟨Float.toInt64⟩
/-- `i64 as u64`: two's complement reinterpretation -/
instance : Cast Int64 UInt64 := ⟨Int64.toUInt64⟩
/-- `i64 as u32`: the low 32 bits -/
instance : Cast Int64 UInt32 := ⟨fun x => x.toUInt64.toUInt32⟩
/-- `i64::wrapping_shl(n)` / `wrapping_shr(n)`: shift by `n mod 64` (arithmetic shift to the right) -/
def i64_wrapping_shl (a : Int64) (n : UInt32) : Int64 := ⟨⟨a.toBitVec <<< (n.toNat % 64)⟩⟩
def i64_wrapping_shr (a : Int64) (n : UInt32) : Int64 := ⟨⟨a.toBitVec.sshiftRight (n.toNat % 64)⟩⟩

/-- `TryFrom`/`TryInto` between integer types: the error value carries no information -/
class TryInto (α β : Type) where
  try_into : α → Except Unit β
export TryInto (try_into)
/-- `usize → i64` -/
instance : TryInto Nat Int64 := ⟨fun n => if n < 2 ^ 63 then .ok (Int64.ofInt n) else .error ()⟩
/-- `u64 → usize` (64-bit platform: always fits) -/
instance : TryInto UInt64 Nat := ⟨fun n => .ok n.toNat⟩
/-- `Result::map_err` -/
def map_err (r : Except ε α) (f : ε → ε') : Except ε' α :=
  match r with
  | .ok a => .ok a
  | .error e => .error (f e)
/-- `Option::ok_or_else` -/
def ok_or_else (o : Option α) (f : Unit → ε) : Except ε α :=
  match o with
  | some a => .ok a
  | none => .error (f ())

/-! ### operators on the primitive types -/

/-- `==` (`PartialEq`); `!=` is its negation -/
class PEq (α : Type) where
  eq : α → α → Bool
export PEq (eq)
instance : PEq Nat := ⟨fun a b => a == b⟩
instance : PEq Bool := ⟨fun a b => a == b⟩
/-- `str == str` -/
instance : PEq Str := ⟨fun a b => a == b⟩
instance : PEq Char := ⟨fun a b => a == b⟩
/-- the derived `PartialEq for Token` / `PartialToken`: same variant and equal payloads (IEEE `==` on floats) -/
def tokenTag : Token → Nat
  | .plus => 0
  | .minus => 1
  | .star => 2
  | .slash => 3
  | .percent => 4
  | .hat => 5
  | .eq => 6
  | .neq => 7
  | .gt => 8
  | .lt => 9
  | .geq => 10
  | .leq => 11
  | .and => 12
  | .or => 13
  | .not => 14
  | .lBrace => 15
  | .rBrace => 16
  | .assign => 17
  | .plusAssign => 18
  | .minusAssign => 19
  | .starAssign => 20
  | .slashAssign => 21
  | .percentAssign => 22
  | .hatAssign => 23
  | .andAssign => 24
  | .orAssign => 25
  | .comma => 26
  | .semicolon => 27
  | .identifier _ => 100 | .float _ => 101 | .int _ => 102 | .boolean _ => 103 | .string _ => 104
def tokenBeq : Token → Token → Bool
  | .identifier a, .identifier b => a == b
  | .float a, .float b => a == b
  | .int a, .int b => a == b
  | .boolean a, .boolean b => a == b
  | .string a, .string b => a == b
  | a, b => tokenTag a < 100 && tokenTag a == tokenTag b
instance : PEq Token := ⟨tokenBeq⟩
instance : PEq PartialToken := ⟨fun a b => match a, b with
  | .plus, .plus | .minus, .minus | .star, .star | .slash, .slash | .percent, .percent | .hat, .hat
  | .whitespace, .whitespace | .eq, .eq | .exclamationMark, .exclamationMark | .gt, .gt | .lt, .lt
  | .ampersand, .ampersand | .verticalBar, .verticalBar => true
  | .literal x, .literal y => x == y
  | .token x, .token y => tokenBeq x y
  | _, _ => false⟩
/-- the derived `PartialEq for Value` (not a function body: mapped to the Model) -/
instance : PEq Value := ⟨Value.beq⟩
instance : PEq ValueType := ⟨fun a b => a == b⟩
def ne [PEq α] (a b : α) : Bool := !eq a b

/-- `<`, `<=`, `>`, `>=` (`PartialOrd`) -/
class POrd (α : Type) where
  lt : α → α → Bool
  le : α → α → Bool
  gt : α → α → Bool
  ge : α → α → Bool
export POrd (lt le gt ge)
/-- `String`: lexicographic on bytes = lexicographic on code points -/
instance : POrd Str := ⟨fun a b => strLt a b, fun a b => !strLt b a, fun a b => strLt b a, fun a b => !strLt a b⟩
instance : POrd Int64 :=
  ⟨fun a b => a.toInt < b.toInt, fun a b => a.toInt ≤ b.toInt, fun a b => a.toInt > b.toInt, fun a b => a.toInt ≥ b.toInt⟩
/-- `f64`: IEEE comparisons (all false on NaN) -/
instance : POrd Float := ⟨fun a b => a < b, fun a b => a ≤ b, fun a b => a > b, fun a b => a ≥ b⟩
instance : POrd Nat := ⟨fun a b => a < b, fun a b => a ≤ b, fun a b => a > b, fun a b => a ≥ b⟩

/-- `+` -/
class Add (α : Type) where
  add : α → α → α
export Add (add)
instance : Add Float := ⟨fun a b => a + b⟩
instance : Add Nat := ⟨fun a b => a + b⟩
/-- `-`, `*`, `/`, `%`, unary `-` on `f64` -/
class Arith (α : Type) where
  sub : α → α → α
  mul : α → α → α
  div : α → α → α
  rem : α → α → α
  neg : α → α
export Arith (sub mul div rem neg)
instance : Arith Float := ⟨fun a b => a - b, fun a b => a * b, fun a b => a / b, F64.fmod, fun a => -a⟩

/-- `!` on `bool` -/
def not (a : Bool) : Bool := !a

/-! ### the context (`&C`, `&mut C` with `C : Context`) -/

/-- `context.get_value(id)` -/
def ctx_get_value (id : Str) : M ρ (Option Value) := fun s => (.val (s.ctx.getValue id), s)

/-- `context.call_function(id, arg)`: the context's own (user) function; the call is logged
like `Model.callFunction` does -/
def ctx_call_function (id : Str) (arg : Value) : M ρ (Res Value) := fun s =>
  match s.ctx.userFn id with
  | some f => (.val (f arg), { s with log := s.log ++ [(id, arg)] })
  | none => (.val (.error (.functionIdentifierNotFound id)), s)

/-- `context.are_builtin_functions_disabled()` -/
def ctx_are_builtin_functions_disabled : M ρ Bool := fun s => (.val s.ctx.builtinsDisabled, s)

/-- `context.set_value(id, v)` -/
def ctx_set_value (id : Str) (v : Value) : M ρ (Res Unit) := fun s =>
  match setValue s id v with
  | (r, s) => (.val r, s)

/-! ### may-diverge computations

A function whose body contains a `loop` / `while` (or that is recursive outside the `for child in children`
pattern, or that calls such a function) is translated to an `Option`-valued definition: `none` is divergence.
Its body is an expression of `D ρ`; a loop body is an expression of `L ρ σ` (σ: the tuple of the local
variables the loop assigns), which adds the two loop exits `break` / `continue`. No termination argument
is needed to define the translation (`partial_fixpoint`); that the result is `some _` is a theorem of the
agreement proofs. -/

/-- outcome of a statement inside a loop body: a value, an early `return`, `break`, `continue` (the
last two carry the current values of the loop's variables) -/
inductive LFlow (ρ σ α : Type) where
  | val (a : α)
  | ret (r : ρ)
  | brk (s : σ)
  | cont (s : σ)

/-- expressions of a function that may diverge: `none` = divergence -/
def D (ρ α : Type) : Type := Option (Flow ρ α)
/-- expressions of a loop body (inside a function that may diverge) -/
def L (ρ σ α : Type) : Type := Option (LFlow ρ σ α)

instance : Monad (D ρ) where
  pure a := some (.val a)
  bind x f := match x with
    | none => none
    | some (.val a) => f a
    | some (.ret r) => some (.ret r)

instance : Monad (L ρ σ) where
  pure a := some (.val a)
  bind x f := match x with
    | none => none
    | some (.val a) => f a
    | some (.ret r) => some (.ret r)
    | some (.brk s) => some (.brk s)
    | some (.cont s) => some (.cont s)

/-- the function boundary of a function that may diverge -/
def D.run : D ρ ρ → Option ρ
  | none => none
  | some f => some f.run

instance : MonadFlow ρ (D ρ) := ⟨fun x => some x⟩
instance : MonadFlow ρ (L ρ σ) := ⟨fun x => match x with
  | .val a => some (.val a)
  | .ret r => some (.ret r)⟩

/-- monads in which a may-diverge computation can run: function bodies (`D`) and loop bodies (`L`) -/
class MonadD (ρ : outParam Type) (m : Type → Type) where
  liftD : D ρ α → m α
export MonadD (liftD)
instance : MonadD ρ (D ρ) := ⟨fun x => x⟩
instance : MonadD ρ (L ρ σ) := ⟨fun x => match x with
  | none => none
  | some (.val a) => some (.val a)
  | some (.ret r) => some (.ret r)⟩

/-- calling a function that may diverge: its divergence is the caller's -/
def callD [MonadD ρ m] (o : Option α) : m α :=
  liftD (match o with
    | none => (none : D ρ α)
    | some a => some (.val a))

/-- `break` -/
def brk (s : σ) : L ρ σ α := some (.brk s)
/-- `continue` -/
def cont (s : σ) : L ρ σ α := some (.cont s)

section order
open Lean.Order

instance : PartialOrder (D ρ α) := inferInstanceAs (PartialOrder (Option (Flow ρ α)))
instance : CCPO (D ρ α) := inferInstanceAs (CCPO (Option (Flow ρ α)))
instance : PartialOrder (L ρ σ α) := inferInstanceAs (PartialOrder (Option (LFlow ρ σ α)))
instance : CCPO (L ρ σ α) := inferInstanceAs (CCPO (Option (LFlow ρ σ α)))

instance : MonoBind (D ρ) where
  bind_mono_left h := by
    cases h
    · exact FlatOrder.rel.bot
    · exact FlatOrder.rel.refl
  bind_mono_right {_ _ a _ _} h := by
    rcases a with _ | _ | _
    · exact FlatOrder.rel.refl
    · exact h _
    · exact FlatOrder.rel.refl

instance : MonoBind (L ρ σ) where
  bind_mono_left h := by
    cases h
    · exact FlatOrder.rel.bot
    · exact FlatOrder.rel.refl
  bind_mono_right {_ _ a _ _} h := by
    rcases a with _ | _ | _ | _ | _
    · exact FlatOrder.rel.refl
    · exact h _
    all_goals exact FlatOrder.rel.refl

/-- a strict function between flat orders (divergence is sent to divergence) is monotone; so is it after a monotone `f` -/
theorem monotone_flat {γ : Sort w} [PartialOrder γ] {α β : Type} (G : Option α → Option β) (hG : G none = none)
    (f : γ → Option α) (h : monotone f) : monotone (fun x => G (f x)) := by
  intro a b hab
  have h' : f a ⊑ f b := h a b hab
  show G (f a) ⊑ G (f b)
  generalize f a = x at h' ⊢; generalize f b = y at h' ⊢
  cases h' with
  | bot => rw [hG]; exact FlatOrder.rel.bot
  | refl => exact FlatOrder.rel.refl

@[partial_fixpoint_monotone]
theorem D.monotone_run {γ : Sort w} [PartialOrder γ] (f : γ → D ρ ρ) (h : monotone f) :
    monotone (fun x => D.run (f x)) := monotone_flat D.run rfl f h

@[partial_fixpoint_monotone]
theorem monotone_callD_D {γ : Sort w} [PartialOrder γ] (f : γ → Option α) (h : monotone f) :
    monotone (fun x => (callD (f x) : D ρ α)) := monotone_flat (fun o => (callD o : D ρ α)) rfl f h

@[partial_fixpoint_monotone]
theorem monotone_callD_L {γ : Sort w} [PartialOrder γ] (f : γ → Option α) (h : monotone f) :
    monotone (fun x => (callD (f x) : L ρ σ α)) := monotone_flat (fun o => (callD o : L ρ σ α)) rfl f h

end order

/-- `loop { body }` (also `while c { b }` = `loop { if c { b } else { break } }` and
`while let P = e { b }` = `loop { match e { P => b, _ => break } }`): run the body on the current values of
the loop's variables until it breaks (value: the final values) or returns; falling off the end of the body and
`continue` start the next pass. A loop that never exits has no value: `none`. -/
def loopFix (body : σ → L ρ σ σ) (st : σ) : D ρ σ :=
  match body st with
  | none => none
  | some (.ret r) => some (.ret r)
  | some (.brk s) => some (.val s)
  | some (.val s) => loopFix body s
  | some (.cont s) => loopFix body s
partial_fixpoint

/-- peekable iteration: `let mut it = xs.iter().peekable(); while let Some(x) = it.next() { … it.peek() … }`
is the iteration over the list with one element of lookahead (`next` = the element `it.peek()` would return) -/
def forPeek (l : List α) (st : σ) (body : α → Option α → σ → L ρ σ σ) : D ρ σ :=
  match l with
  | [] => some (.val st)
  | a :: l =>
    match body a l.head? st with
    | none => none
    | some (.ret r) => some (.ret r)
    | some (.brk s) => some (.val s)
    | some (.val s) => forPeek l s body
    | some (.cont s) => forPeek l s body

/-- a call of a may-diverge function from a function that is translated as total (table `CONVERGED_CALLS` of
translate_fn.py): divergence of the callee is the designated outcome `panic "<callee>: diverges"`, which no
Model function produces — agreement with the Model therefore includes termination of the callee. -/
def converged (site : Str) (o : Option (Res α)) : Res α :=
  match o with
  | some r => r
  | none => .error (.panic site)

/-- the fuel handed to a fuel-indexed translated function (table `FUEL_CALLS` of translate_fn.py) by a caller that is translated
as total: the number of characters of the string argument, plus one. Not trusted to suffice: too little fuel is the callee's
out-of-fuel panic, which no Model function produces — the caller's agreement theorem proves that it does suffice. -/
def fuel_chars (s : Str) : Nat := s.length + 1

/-! ### functions with `&mut` parameters / `&mut self` that return a `Result`

Such a function returns the pair (result, final values of the `&mut` places): `ρ = Res β × ω`. An early
exit (`?`, a panic) returns the CURRENT values of the places next to the error, like an explicit `return`. -/

/-- `e?` -/
def try_out [MonadFlow (Res β × ω) m] (e : Res α) (cur : ω) : m α :=
  MonadFlow.liftFlow (match e with
    | .ok a => Flow.val a
    | .error err => Flow.ret (.error err, cur))
/-- a panic -/
def panic_out [MonadFlow (Res β × ω) m] (site : Str) (cur : ω) : m α :=
  MonadFlow.liftFlow (Flow.ret (.error (.panic site), cur))
/-- `Option::unwrap` -/
def unwrap_out [MonadFlow (Res β × ω) m] (site : Str) (o : Option α) (cur : ω) : m α :=
  MonadFlow.liftFlow (match o with
    | some v => Flow.val v
    | none => Flow.ret (.error (.panic site), cur))
/-- `a[i]` -/
def index_out [MonadFlow (Res β × ω) m] (site : Str) (a : List α) (i : Nat) (cur : ω) : m α :=
  MonadFlow.liftFlow (match a[i]? with
    | some v => Flow.val v
    | none => Flow.ret (.error (.panic site), cur))

/-! ### `Vec` as a stack; places -/

instance : Len (List Node) := ⟨List.length⟩
instance : Len (List Token) := ⟨List.length⟩
/-- `Vec::pop` (`&mut self`): the popped element and the new vector -/
def pop (a : List α) : Option α × List α := (a.getLast?, a.dropLast)
/- (the write through a reference obtained from `v.last_mut()` is `Rs.set_last`, defined above: `v.dropLast ++ [x]`) -/
/-- the write through `&mut v[i]` -/
def set_index (a : List α) (i : Nat) (x : α) : List α := a.set i x
/-- `Iterator::peekable`, `Option<&T>::copied` (identity, like `cloned`) -/
def copied {φ : Type} (a : φ) : φ := a

/-! ### derived `PartialEq` of `Operator` / `Token`, `mem::discriminant` -/

/-- `#[derive(PartialEq)]` on `Operator`: same variant, equal payloads (`Value`: `Value.beq`) -/
def Operator.peq (a b : Operator) : Bool :=
  match a, b with
  | .const x, .const y => Value.beq x y
  | .varWrite x, .varWrite y => x == y
  | .varRead x, .varRead y => x == y
  | .fn x, .fn y => x == y
  | _, _ => a.kind == b.kind
instance : PEq Operator := ⟨Operator.peq⟩

/- (the derived `PartialEq` of `Token` is `Rs.tokenBeq` / `instance : PEq Token`, defined above) -/

/-- `==` on `Option<T>` -/
instance [PEq α] : PEq (Option α) := ⟨fun a b => match a, b with
  | some x, some y => eq x y
  | none, none => true
  | _, _ => false⟩

/-- `mem::discriminant` of an `Operator`: its variant (compared with `==`) -/
def discriminant (o : Operator) : OpKind := o.kind
instance : PEq OpKind := ⟨fun a b => a == b⟩

/-- `Iterator::filter_map` (an iterator is the list of its items) -/
def filter_map (l : List α) (f : α → Option β) : List β := l.filterMap f

/-! ### `Display::fmt` -/
/-- `for x in xs { body }` in a body without early exit: the left fold of the body over the loop state -/
def foldFor (l : List α) (init : σ) (f : α → σ → σ) : σ :=
  match l with
  | [] => init
  | a :: l => foldFor l (f a init) f
/-- termination measure of the recursive `Display::fmt` over `Value` (a proved fact, used by the generated `decreasing_by`) -/
theorem value_lt {v : Value} {t : List Value} (h : v ∈ t) : sizeOf v < sizeOf (Value.tuple t) := by
  have := List.sizeOf_lt_of_mem h
  simp
  omega

/-! ### serde (src/feature_serde/mod.rs) -/
/-- `E::custom(error)` for serde's `E: de::Error` (third-party, format-specific). ASSUMED: the serde error built by
`custom` is determined by its argument (serde documents `custom(msg: impl Display)` as "an error with the message
`msg`"); the Model keeps the argument itself — the `EvalexprError`, whose `Display` text (`Err.displayBuild`) is that
message — instead of choosing a concrete `E`. Nothing is assumed about `Deserializer::deserialize_str` beyond calling
`visit_str` with the string it decodes (that call is serde's, not translated). -/
def de_custom (e : Err) : Err := e

/-- an iterator struct (state `σ`, translated `Iterator::next : fuel → σ → Res (Option α × σ)`) used as `impl Iterator`:
the items `next` yields until it returns `None`; `.error (.panic …)` when `fuel` calls of `next` were not enough -/
def collect_iter (next : σ → Res (Option α × σ)) : Nat → σ → Res (List α)
  | 0, _ => .error (.panic cl!"impl Iterator: not exhausted within the fuel")
  | fuel + 1, s =>
    match next s with
    | .error e => .error e
    | .ok (none, _) => .ok []
    | .ok (some a, s') => (collect_iter next fuel s').map (a :: ·)

end Evalexpr.Rs

/-
Translate/Tactics.lean — a case-splitting tactic for the agreement proofs of the tree builder
(`Proofs/AgreeFnTreeBuild.lean`, `Proofs/AgreeFnTokensToTree.lean`). Nothing here is trusted: the tactic only produces ordinary
proof terms (`Decidable.byCases` + `simp only`), which the kernel checks.

`rs_split_if`: find the outermost `if c then _ else _` of the goal whose condition `c` does not depend on a bound
variable, split into the cases `c` / `¬ c`, and rewrite the goal's `if c` accordingly. (The core `split` tactic does
the same, but its internal simplification step runs out of steps on the large goals produced by symbolic execution.)
`rs_split_ifs` repeats it on all resulting goals.
-/
import Lean.Elab.Tactic

namespace Evalexpr.Rs
open Lean Elab Tactic Meta

elab "rs_split_if" : tactic => withMainContext do
  let tgt ← instantiateMVars (← getMainTarget)
  let some c := tgt.find? (fun e => (e.isAppOfArity ``ite 5 || e.isAppOfArity ``dite 5) && !(e.getArg! 1).hasLooseBVars)
    | throwError "rs_split_if: no if-then-else in the goal"
  let cond := c.getArg! 1
  let g ← getMainGoal
  let (s1, s2) ← g.byCases cond `hc
  let mut res : List MVarId := []
  for (s, pos) in [(s1, true), (s2, false)] do
    setGoals [s.mvarId]
    let h := mkIdent (← s.mvarId.withContext do return (← s.fvarId.getDecl).userName)
    if pos then
      evalTactic (← `(tactic| simp only [if_pos $h, dif_pos $h]))
    else
      evalTactic (← `(tactic| simp only [if_neg $h, dif_neg $h]))
    res := res ++ (← getGoals)
  setGoals res

macro "rs_split_ifs" : tactic => `(tactic| repeat' rs_split_if)

end Evalexpr.Rs

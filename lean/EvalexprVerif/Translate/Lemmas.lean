/-
Translate/Lemmas.lean — proved facts about the vocabulary of Translate/Prelude.lean, used as a
simp set (`rs_exec`, Translate/Attr.lean; most are plain `simp` lemmas as well) by the agreement proofs
`Proofs/AgreeFn*.lean` to execute generated bodies symbolically where plain `rfl` is stuck on an
observation of the state. Which lemmas belong to `rs_exec` is said in one place: the `attribute [rs_exec]` block at
the end of this file. Nothing here is trusted.
-/
import EvalexprVerif.Translate.Prelude
import EvalexprVerif.Translate.Attr

namespace Evalexpr.Rs

@[simp] theorem Flow.pure_eq (a : α) : (pure a : Flow ρ α) = .val a := rfl
@[simp] theorem Flow.val_bind (a : α) (f : α → Flow ρ β) : (Flow.val a >>= f) = f a := rfl
@[simp] theorem Flow.ret_bind (r : ρ) (f : α → Flow ρ β) : ((Flow.ret r : Flow ρ α) >>= f) = .ret r := rfl
@[simp] theorem Flow.bind_assoc (x : Flow ρ α) (f : α → Flow ρ β) (g : β → Flow ρ γ) :
    ((x >>= f) >>= g) = (x >>= fun a => f a >>= g) := by cases x <;> rfl
@[simp] theorem Flow.run_val (a : ρ) : Flow.run (.val a : Flow ρ ρ) = a := rfl
@[simp] theorem Flow.run_ret (a : ρ) : Flow.run (.ret a : Flow ρ ρ) = a := rfl

@[simp] theorem ofErr_res (e : Err) : (ErrRet.ofErr e : Res β) = .error e := rfl
@[simp] theorem ofErr_loopOut [ErrRet ρ] (e : Err) : (ErrRet.ofErr e : LoopOut ρ σ) = .ret (ErrRet.ofErr e) := rfl
@[simp] theorem Flow.try_ok [ErrRet ρ] (a : α) : (Rs.try (.ok a) : Flow ρ α) = .val a := rfl
@[simp] theorem Flow.try_error [ErrRet ρ] (e : Err) : (Rs.try (.error e : Res α) : Flow ρ α) = .ret (ErrRet.ofErr e) := rfl
/-- `e?` on a result that is not yet known: the proofs then split on `e`, a value of the Model -/
theorem Flow.run_try_bind (e : Res α) (f : α → Flow (Res β) (Res β)) :
    Flow.run (Rs.try e >>= f) = match e with
      | .ok a => Flow.run (f a)
      | .error err => .error err := by
  cases e <;> rfl
/-- The first statement `x` of a function body replaced by an equal computation. `rw [Flow.run_bind_congr (x' := …)]` finds `x`
by unification — the generated text is not mentioned — and leaves the rest of the body running after `x'`, and `x = x'`. -/
theorem Flow.run_bind_congr {ρ α : Type} {x x' : Flow ρ α} (k : α → Flow ρ ρ) (h : x = x') :
    Flow.run (x >>= k) = Flow.run (x' >>= k) := by rw [h]
@[simp] theorem Flow.ret_def (r : ρ) : (Rs.ret r : Flow ρ α) = .ret r := rfl
@[simp] theorem Flow.panic_def [ErrRet ρ] (site : Str) : (Rs.panic site : Flow ρ α) = .ret (ErrRet.ofErr (.panic site)) := rfl
@[simp] theorem Flow.index_zero [ErrRet ρ] (site : Str) (a : α) (l : List α) : (index site (a :: l) 0 : Flow ρ α) = .val a := rfl
@[simp] theorem Flow.index_succ [ErrRet ρ] (site : Str) (a : α) (l : List α) (n : Nat) :
    (index site (a :: l) (n + 1) : Flow ρ α) = index site l n := by
  simp [index]
@[simp] theorem Flow.index_nil [ErrRet ρ] (site : Str) (n : Nat) :
    (index site ([] : List α) n : Flow ρ α) = .ret (ErrRet.ofErr (.panic site)) := rfl
@[simp] theorem Flow.swap_remove_def [ErrRet ρ] (site : Str) (l : List α) (n : Nat) :
    (swap_remove site l n : Flow ρ α) = index site l n := rfl

/-! `M`: everything is stated for `M.run (x >>= f) s` and `M.run x s` -/

theorem M.bind_def (x : M ρ α) (f : α → M ρ β) (s : St) :
    (x >>= f) s = match x s with
      | (.val a, s) => f a s
      | (.ret r, s) => (.ret r, s) := rfl

@[simp] theorem M.run_pure (a : ρ) (s : St) : M.run (pure a : M ρ ρ) s = (a, s) := rfl
@[simp] theorem M.run_pure_bind (a : α) (f : α → M ρ ρ) (s : St) : M.run (pure a >>= f) s = M.run (f a) s := rfl

@[simp] theorem M.run_bind_bind (x : M ρ α) (f : α → M ρ β) (g : β → M ρ ρ) (s : St) :
    M.run ((x >>= f) >>= g) s = M.run (x >>= fun a => f a >>= g) s := by
  simp only [M.run, M.bind_def]
  rcases x s with ⟨_ | _, _⟩ <;> rfl

@[simp] theorem M.run_ret (r : ρ) (s : St) : M.run (ret r : M ρ ρ) s = (r, s) := rfl
@[simp] theorem M.run_ret_bind (r : ρ) (f : α → M ρ ρ) (s : St) : M.run ((ret r : M ρ α) >>= f) s = (r, s) := rfl

@[simp] theorem M.run_try_ok (a : α) (f : α → M (Res β) (Res β)) (s : St) :
    M.run (Rs.try (.ok a) >>= f) s = M.run (f a) s := rfl
@[simp] theorem M.run_try_error (e : Err) (f : α → M (Res β) (Res β)) (s : St) :
    M.run (Rs.try (.error e : Res α) >>= f) s = (.error e, s) := rfl

theorem M.run_try_bind (e : Res α) (f : α → M (Res β) (Res β)) (s : St) :
    M.run (Rs.try e >>= f) s = match e with
      | .ok a => M.run (f a) s
      | .error err => (.error err, s) := by
  cases e <;> rfl

@[simp] theorem M.run_panic (site : Str) (s : St) :
    M.run (panic site : M (Res β) (Res β)) s = (.error (.panic site), s) := rfl
@[simp] theorem M.run_panic_bind (site : Str) (f : α → M (Res β) (Res β)) (s : St) :
    M.run ((panic site : M (Res β) α) >>= f) s = (.error (.panic site), s) := rfl

@[simp] theorem M.run_index_zero_bind (site : Str) (a : α) (l : List α) (f : α → M (Res β) (Res β)) (s : St) :
    M.run (index site (a :: l) 0 >>= f) s = M.run (f a) s := rfl
@[simp] theorem M.run_index_succ_bind (site : Str) (a : α) (l : List α) (n : Nat) (f : α → M (Res β) (Res β)) (s : St) :
    M.run (index site (a :: l) (n + 1) >>= f) s = M.run (index site l n >>= f) s := by
  simp [index, M.run, M.bind_def]
@[simp] theorem M.run_index_nil_bind (site : Str) (n : Nat) (f : α → M (Res β) (Res β)) (s : St) :
    M.run (index site ([] : List α) n >>= f) s = (.error (.panic site), s) := rfl

@[simp] theorem M.run_unwrap_some_bind (site : Str) (a : α) (f : α → M (Res β) (Res β)) (s : St) :
    M.run (unwrap site (some a) >>= f) s = M.run (f a) s := rfl
@[simp] theorem M.run_unwrap_none_bind (site : Str) (f : α → M (Res β) (Res β)) (s : St) :
    M.run (unwrap site (none : Option α) >>= f) s = (.error (.panic site), s) := rfl

@[simp] theorem M.run_call (g : St → ρ × St) (s : St) : M.run (call g : M ρ ρ) s = g s := rfl
@[simp] theorem M.run_call_bind (g : St → α × St) (f : α → M ρ ρ) (s : St) :
    M.run (call g >>= f) s = M.run (f (g s).1) (g s).2 := rfl

@[simp] theorem M.run_ctx_get_value_bind (id : Str) (f : Option Value → M ρ ρ) (s : St) :
    M.run (ctx_get_value id >>= f) s = M.run (f (s.ctx.getValue id)) s := rfl
@[simp] theorem M.run_ctx_are_builtin_functions_disabled_bind (f : Bool → M ρ ρ) (s : St) :
    M.run (ctx_are_builtin_functions_disabled >>= f) s = M.run (f s.ctx.builtinsDisabled) s := rfl
@[simp] theorem M.run_ctx_set_value_bind (id : Str) (v : Value) (f : Res Unit → M ρ ρ) (s : St) :
    M.run (ctx_set_value id v >>= f) s = M.run (f (setValue s id v).1) (setValue s id v).2 := rfl
theorem M.run_ctx_call_function_bind (id : Str) (arg : Value) (f : Res Value → M ρ ρ) (s : St) :
    M.run (ctx_call_function id arg >>= f) s =
      match s.ctx.userFn id with
      | some g => M.run (f (g arg)) { s with log := s.log ++ [(id, arg)] }
      | none => M.run (f (.error (.functionIdentifierNotFound id))) s := by
  simp only [M.run, M.bind_def, ctx_call_function]
  cases s.ctx.userFn id <;> rfl

@[simp] theorem M.run_ite (c : Prop) [Decidable c] (x y : M ρ ρ) (s : St) :
    M.run (if c then x else y) s = if c then M.run x s else M.run y s := by
  split <;> rfl
@[simp] theorem M.run_ite_bind (c : Prop) [Decidable c] (x y : M ρ α) (f : α → M ρ ρ) (s : St) :
    M.run ((if c then x else y) >>= f) s = if c then M.run (x >>= f) s else M.run (y >>= f) s := by
  split <;> rfl

@[simp] theorem forIn_nil [Monad m] (init : σ) (f : α → σ → m σ) : forIn [] init f = pure init := rfl
@[simp] theorem forIn_cons [Monad m] (a : α) (l : List α) (init : σ) (f : α → σ → m σ) :
    forIn (a :: l) init f = f a init >>= fun s => forIn l s f := rfl

/-- induction over a tree: a property holds of a node if it holds of its children -/
theorem node_ind {P : Node → Prop} (h : ∀ op cs, (∀ c ∈ cs, P c) → P ⟨op, cs⟩) (n : Node) : P n :=
  Node.rec (motive_2 := fun cs => ∀ c ∈ cs, P c) h (fun _ h => nomatch h)
    (fun _ _ h1 h2 => List.forall_mem_cons.2 ⟨h1, h2⟩) n

/-- evaluate the elements in order, stop at the first error -/
def seqList (ev : α → St → Res γ × St) : List α → St → Res (List γ) × St
  | [], s => (.ok [], s)
  | c :: cs, s => match ev c s with
    | (.error e, s) => (.error e, s)
    | (.ok v, s) => match seqList ev cs s with
      | (.error e, s) => (.error e, s)
      | (.ok vs, s) => (.ok (v :: vs), s)

/-- a loop whose body evaluates the element with `ev` (early return on error) and appends the value
to the loop state is the in-order list evaluator -/
theorem M.run_forIn_push_bind {α γ β : Type} (ev : α → St → Res γ × St)
    {p : α → Prop} (l : List {x // p x}) (F : {x // p x} → List γ → M (Res β) (List γ))
    (hF : ∀ x acc (k : List γ → M (Res β) (Res β)) s, M.run (F x acc >>= k) s =
      match ev x.1 s with
      | (.error e, s') => (.error e, s')
      | (.ok v, s') => M.run (k (acc ++ [v])) s')
    (acc : List γ) (k : List γ → M (Res β) (Res β)) (s : St) :
    M.run (forIn l acc F >>= k) s =
      match seqList ev (l.map (·.1)) s with
      | (.error e, s') => (.error e, s')
      | (.ok vs, s') => M.run (k (acc ++ vs)) s' := by
  induction l generalizing acc s with
  | nil => simp [seqList]
  | cons x l ih =>
    simp only [forIn_cons, List.map_cons, seqList, M.run_bind_bind, hF]
    generalize ev x.1 s = r
    -- the element fails (the loop ends), or it yields `v` and the rest of the loop fails or not
    rcases r with ⟨_ | v, s1⟩
    · rfl
    · simp only [ih]
      generalize seqList ev (List.map (·.1) l) s1 = r
      rcases r with ⟨_ | vs, s2⟩ <;> simp

/-- a loop (in a function without context) whose passes unfold a recursive function `fold` of the Model — `fold (x :: l) st` is one
pass from `st` and then `fold l`, an error ending both — is `fold`, as a result under `?` -/
theorem Flow.forIn_try {α σ β : Type} (fold : List α → σ → Res σ) {F : α → σ → Flow (Res β) σ}
    (hnil : ∀ st, fold [] st = .ok st)
    (hcons : ∀ x l st, Rs.try (fold (x :: l) st) = F x st >>= fun st' => Rs.try (fold l st'))
    (l : List α) (st : σ) : forIn l st F = Rs.try (fold l st) := by
  induction l generalizing st with
  | nil => rw [hnil]; rfl
  | cons x l ih => rw [hcons, forIn_cons]; exact congrArg _ (funext ih)

/-- the result of a `loop`: what its body eventually returns, or the out-of-fuel panic -/
def loopRes (site : Str) : Nat → σ → (σ → Flow (Res β) σ) → Res β
  | 0, _, _ => .error (.panic site)
  | n + 1, s, f => match f s with
    | .val s' => loopRes site n s' f
    | .ret r => r

theorem loop_eq (site : Str) (n : Nat) (s : σ) (f : σ → Flow (Res β) σ) :
    (loop site n s f : Flow (Res β) α) = .ret (loopRes site n s f) := by
  induction n generalizing s with
  | zero => rfl
  | succ n ih =>
    rw [loop, loopRes]
    cases f s with
    | val s' => exact ih s'
    | ret r => rfl

theorem Flow.run_loop_bind (site : Str) (n : Nat) (s : σ) (f : σ → Flow (Res β) σ) (k : α → Flow (Res β) (Res β)) :
    Flow.run (loop site n s f >>= k) = loopRes site n s f := by
  rw [loop_eq]; rfl

@[simp] theorem last_concat (l : List α) (x : α) : last (l ++ [x]) = some x := by simp [last]
@[simp] theorem last_nil : last ([] : List α) = none := rfl
@[simp] theorem set_last_concat (l : List α) (x y : α) : set_last (l ++ [x]) y = l ++ [y] := by simp [set_last]
@[simp] theorem pop_back_concat (l : List α) (x : α) : pop_back (l ++ [x]) = l := by simp [pop_back]
@[simp] theorem iter_next_nil : iter_next ([] : List α) = (none, []) := rfl
@[simp] theorem iter_next_cons (a : α) (l : List α) : iter_next (a :: l) = (some a, l) := rfl
@[simp] theorem iter_def (l : List α) : iter l = l := rfl
@[simp] theorem Flow.unwrap_some [ErrRet ρ] (site : Str) (a : α) : (unwrap site (some a) : Flow ρ α) = .val a := rfl

theorem Flow.run_loopB_succ_bind [ErrRet ρ] (site : Str) (n : Nat) (s : σ) (f : σ → LoopOut ρ σ) (k : σ → Flow ρ ρ) :
    Flow.run (loopB site (n + 1) s f >>= k) =
      match f s with
      | .cont s' => Flow.run (loopB site n s' f >>= k)
      | .brk s' => Flow.run (k s')
      | .ret r => r := by
  rw [loopB]
  cases f s <;> rfl
theorem Flow.run_loopB_zero_bind [ErrRet ρ] (site : Str) (s : σ) (f : σ → LoopOut ρ σ) (k : σ → Flow ρ ρ) :
    Flow.run (loopB site 0 s f >>= k) = ErrRet.ofErr (.panic site) := rfl

/-- a `loopB` loop computes a recursively specified value `spec`: every run of the body from a state `s` (with measure
below `bound`, e.g. the fuel the body passes to the functions it calls) either continues in a state of smaller measure
and the same `spec`, or breaks / returns with what `spec s` says. Then enough fuel (`measure s < fuel`) gives `spec s`. -/
theorem Flow.run_loopB_spec {σ ρ : Type} [ErrRet ρ] (site : Str) (f : σ → LoopOut ρ σ) (k : σ → Flow ρ ρ)
    (measure : σ → Nat) (spec : σ → ρ) (bound : Nat)
    (hstep : ∀ s, measure s < bound → match f s with
      | .cont s' => measure s' < measure s ∧ spec s = spec s'
      | .brk s' => spec s = Flow.run (k s')
      | .ret r => spec s = r) :
    ∀ (fuel : Nat) (s : σ), measure s < fuel → measure s < bound →
      Flow.run (loopB site fuel s f >>= k) = spec s := by
  intro fuel
  induction fuel with
  | zero => intro s h; cases h
  | succ n ih =>
    intro s h hb
    rw [Flow.run_loopB_succ_bind]
    have hs := hstep s hb
    cases hfs : f s with
    | cont s' =>
      rw [hfs] at hs
      simp only
      rw [ih s' (by omega) (by omega)]
      exact hs.2.symm
    | brk s' => rw [hfs] at hs; exact hs.symm
    | ret r => rw [hfs] at hs; exact hs.symm

@[simp] theorem Flow.slice_from_def [ErrRet ρ] (site : Str) (v : List α) (a : Nat) :
    (slice_from site v a : Flow ρ (List α)) =
      if a ≤ v.length then .val (v.drop a) else .ret (ErrRet.ofErr (.panic site)) := rfl
@[simp] theorem extend_def (v : List α) (o : Option α) : extend v o = v ++ o.toList := rfl
@[simp] theorem peek_nil : peek ([] : List α) = none := rfl
@[simp] theorem peek_cons (a : α) (l : List α) : peek (a :: l) = some a := rfl
@[simp] theorem chars_def (s : Str) : chars s = s := rfl
@[simp] theorem eq_char (a b : Char) : eq a b = (a == b) := rfl
@[simp] theorem to_string_char (c : Char) : to_string c = [c] := rfl
@[simp] theorem to_string_str (s : Str) : to_string s = s := rfl
@[simp] theorem push_str_def (s t : Str) : push_str s t = s ++ t := rfl
@[simp] theorem attach_ok (a : α) (st : σ) : attach (.ok a) st = .ok (a, st) := rfl
@[simp] theorem attach_error (e : Err) (st : σ) : attach (.error e : Res α) st = .error e := rfl
/-- the result vector of the lexer, seen from its end (the Model accumulates in reverse) -/
@[simp] theorem last_reverse (acc : List α) : last acc.reverse = acc.head? := by
  cases acc <;> simp [last]
@[simp] theorem push_reverse (acc : List α) (x : α) : push acc.reverse x = (x :: acc).reverse := by simp [push]
@[simp] theorem set_last_reverse (a : α) (acc : List α) (x : α) : set_last (a :: acc).reverse x = (x :: acc).reverse := by
  simp [set_last]

@[simp] theorem len_list (l : List Value) : len l = l.length := rfl
@[simp] theorem len_str (s : Str) : len s = utf8Len s := rfl
@[simp] theorem eq_nat (a b : Nat) : eq a b = (a == b) := rfl
/-- as a proposition; the sides are swapped to match the hypotheses `¬ p.1 = id` of a failed table lookup -/
theorem eq_str (a b : Str) : (eq a b = true) = (b = a) := by
  show ((a == b) = true) = (b = a)
  rw [beq_iff_eq]; exact propext ⟨Eq.symm, Eq.symm⟩
@[simp] theorem eq_valueType (a b : ValueType) : eq a b = (a == b) := rfl
@[simp] theorem eq_value (a b : Value) : eq a b = Value.beq a b := rfl
@[simp] theorem ne_def [PEq α] (a b : α) : ne a b = !eq a b := rfl
@[simp] theorem clone_def (a : α) : clone a = a := rfl
@[simp] theorem cloned_def {φ : Type} (a : φ) : cloned a = a := rfl
@[simp] theorem not_def (a : Bool) : Rs.not a = !a := rfl
@[simp] theorem is_empty_def (l : List α) : is_empty l = l.isEmpty := rfl
@[simp] theorem first_def (l : List α) : first l = l.head? := rfl
theorem last_def (l : List α) : last l = l.getLast? := rfl
@[simp] theorem get_list (l : List α) (i : Nat) : get l i = l[i]? := rfl
@[simp] theorem get_map (m : List (Str × β)) (k : Str) : get m k = alookup k m := rfl
@[simp] theorem fn_call_user (f : UserFn) (a : Value) : fn_call f a = f a := rfl
@[simp] theorem unwrap_or_some (a d : α) : unwrap_or (some a) d = a := rfl
@[simp] theorem unwrap_or_none (d : α) : unwrap_or (none : Option α) d = d := rfl
@[simp] theorem map_res (r : Res α) (f : α → β) : map r f = Except.map f r := rfl
@[simp] theorem push_def (l : List α) (x : α) : push l x = l ++ [x] := rfl
@[simp] theorem Vec.new_def : (Vec.new : List α) = [] := rfl
@[simp] theorem into_list (l : List α) : (into l : List α) = l := rfl

@[simp] theorem D.pure_bind (a : α) (f : α → D ρ β) : (pure a >>= f) = f a := rfl
@[simp] theorem D.ret_bind (r : ρ) (f : α → D ρ β) : ((ret r : D ρ α) >>= f) = ret r := rfl
@[simp] theorem D.none_bind (f : α → D ρ β) : bind (m := D ρ) (none : Option (Flow ρ α)) f = (none : Option (Flow ρ β)) := rfl
@[simp] theorem D.bind_assoc (x : D ρ α) (f : α → D ρ β) (g : β → D ρ γ) :
    ((x >>= f) >>= g) = (x >>= fun a => f a >>= g) := by
  rcases x with _ | _ | _ <;> rfl
@[simp] theorem D.run_pure (a : ρ) : D.run (pure a : D ρ ρ) = some a := rfl
@[simp] theorem D.run_ret (a : ρ) : D.run (ret a : D ρ ρ) = some a := rfl
@[simp] theorem D.run_none : D.run (none : D ρ ρ) = none := rfl
@[simp] theorem D.ite_bind (c : Prop) [Decidable c] (x y : D ρ α) (f : α → D ρ β) :
    ((if c then x else y) >>= f) = if c then x >>= f else y >>= f := by
  split <;> rfl

@[simp] theorem D.try_ok (a : α) : (Rs.try (.ok a) : D (Res β) α) = pure a := rfl
@[simp] theorem D.try_error (e : Err) : (Rs.try (.error e : Res α) : D (Res β) α) = ret (.error e) := rfl
@[simp] theorem D.try_out_ok (a : α) (cur : ω) : (try_out (.ok a) cur : D (Res β × ω) α) = pure a := rfl
@[simp] theorem D.try_out_error (e : Err) (cur : ω) :
    (try_out (.error e : Res α) cur : D (Res β × ω) α) = ret (.error e, cur) := rfl
@[simp] theorem D.unwrap_some (site : Str) (a : α) : (unwrap site (some a) : D (Res β) α) = pure a := rfl
@[simp] theorem D.unwrap_none (site : Str) : (unwrap site (none : Option α) : D (Res β) α) = ret (.error (.panic site)) := rfl
@[simp] theorem D.unwrap_out_some (site : Str) (a : α) (cur : ω) :
    (unwrap_out site (some a) cur : D (Res β × ω) α) = pure a := rfl
@[simp] theorem D.unwrap_out_none (site : Str) (cur : ω) :
    (unwrap_out site (none : Option α) cur : D (Res β × ω) α) = ret (.error (.panic site), cur) := rfl
@[simp] theorem D.panic_def (site : Str) : (panic site : D (Res β) α) = ret (.error (.panic site)) := rfl
@[simp] theorem D.panic_out_def (site : Str) (cur : ω) :
    (panic_out site cur : D (Res β × ω) α) = ret (.error (.panic site), cur) := rfl
@[simp] theorem D.callD_some (a : α) : (callD (some a) : D ρ α) = pure a := rfl
@[simp] theorem D.callD_none : (callD (none : Option α) : D ρ α) = none := rfl
@[simp] theorem D.liftD_def (x : D ρ α) : (liftD x : D ρ α) = x := rfl

@[simp] theorem L.pure_bind (a : α) (f : α → L ρ σ β) : (pure a >>= f) = f a := rfl
@[simp] theorem L.ret_bind (r : ρ) (f : α → L ρ σ β) : ((ret r : L ρ σ α) >>= f) = ret r := rfl
@[simp] theorem L.brk_bind (s : σ) (f : α → L ρ σ β) : ((brk s : L ρ σ α) >>= f) = brk s := rfl
@[simp] theorem L.cont_bind (s : σ) (f : α → L ρ σ β) : ((cont s : L ρ σ α) >>= f) = cont s := rfl
@[simp] theorem L.none_bind (f : α → L ρ σ β) : bind (m := L ρ σ) (none : Option (LFlow ρ σ α)) f = (none : Option (LFlow ρ σ β)) := rfl
@[simp] theorem L.bind_assoc (x : L ρ σ α) (f : α → L ρ σ β) (g : β → L ρ σ γ) :
    ((x >>= f) >>= g) = (x >>= fun a => f a >>= g) := by
  rcases x with _ | _ | _ | _ | _ <;> rfl
@[simp] theorem L.ite_bind (c : Prop) [Decidable c] (x y : L ρ σ α) (f : α → L ρ σ β) :
    ((if c then x else y) >>= f) = if c then x >>= f else y >>= f := by
  split <;> rfl

@[simp] theorem L.try_ok (a : α) : (Rs.try (.ok a) : L (Res β) σ α) = pure a := rfl
@[simp] theorem L.try_error (e : Err) : (Rs.try (.error e : Res α) : L (Res β) σ α) = ret (.error e) := rfl
@[simp] theorem L.try_out_ok (a : α) (cur : ω) : (try_out (.ok a) cur : L (Res β × ω) σ α) = pure a := rfl
@[simp] theorem L.try_out_error (e : Err) (cur : ω) :
    (try_out (.error e : Res α) cur : L (Res β × ω) σ α) = ret (.error e, cur) := rfl
@[simp] theorem L.unwrap_some (site : Str) (a : α) : (unwrap site (some a) : L (Res β) σ α) = pure a := rfl
@[simp] theorem L.unwrap_none (site : Str) : (unwrap site (none : Option α) : L (Res β) σ α) = ret (.error (.panic site)) := rfl
@[simp] theorem L.unwrap_out_some (site : Str) (a : α) (cur : ω) :
    (unwrap_out site (some a) cur : L (Res β × ω) σ α) = pure a := rfl
@[simp] theorem L.unwrap_out_none (site : Str) (cur : ω) :
    (unwrap_out site (none : Option α) cur : L (Res β × ω) σ α) = ret (.error (.panic site), cur) := rfl
@[simp] theorem L.panic_def (site : Str) : (panic site : L (Res β) σ α) = ret (.error (.panic site)) := rfl
@[simp] theorem L.panic_out_def (site : Str) (cur : ω) :
    (panic_out site cur : L (Res β × ω) σ α) = ret (.error (.panic site), cur) := rfl
@[simp] theorem L.callD_some (a : α) : (callD (some a) : L ρ σ α) = pure a := rfl
@[simp] theorem L.callD_none : (callD (none : Option α) : L ρ σ α) = none := rfl
@[simp] theorem L.liftD_pure (a : α) : (liftD (pure a : D ρ α) : L ρ σ α) = pure a := rfl
@[simp] theorem L.liftD_ret (r : ρ) : (liftD (ret r : D ρ α) : L ρ σ α) = ret r := rfl
@[simp] theorem L.liftD_none : (liftD (none : D ρ α) : L ρ σ α) = none := rfl

@[simp] theorem L.pure_inj (a b : α) : ((pure a : L ρ σ α) = pure b) ↔ a = b := by
  constructor
  · intro h; injection h with h; injection h
  · rintro rfl; rfl
@[simp] theorem L.ret_inj (a b : ρ) : ((ret a : L ρ σ α) = ret b) ↔ a = b := by
  constructor
  · intro h; injection h with h; injection h
  · rintro rfl; rfl
@[simp] theorem L.pure_ne_ret (a : α) (r : ρ) : ((pure a : L ρ σ α) = ret r) ↔ False := by
  constructor
  · intro h; injection h with h; cases h
  · exact False.elim
@[simp] theorem L.ret_ne_pure (a : α) (r : ρ) : ((ret r : L ρ σ α) = pure a) ↔ False := by
  constructor
  · intro h; injection h with h; cases h
  · exact False.elim

/-- what a loop does with the outcome of one pass through its body -/
def loopStep (x : L ρ σ σ) (k : σ → D ρ σ) : D ρ σ :=
  match x with
  | none => none
  | some (.ret r) => some (.ret r)
  | some (.brk s) => some (.val s)
  | some (.val s) => k s
  | some (.cont s) => k s

theorem loopFix_unfold (body : σ → L ρ σ σ) (st : σ) : loopFix body st = loopStep (body st) (loopFix body) := by
  rw [loopFix.eq_1]
  generalize body st = x
  rcases x with _ | _ | _ | _ | _ <;> rfl
@[simp] theorem forPeek_nil (st : σ) (body : α → Option α → σ → L ρ σ σ) : forPeek [] st body = pure st := rfl
@[simp] theorem forPeek_cons (a : α) (l : List α) (st : σ) (body : α → Option α → σ → L ρ σ σ) :
    forPeek (a :: l) st body = loopStep (body a l.head? st) (fun s => forPeek l s body) := by
  rw [forPeek]
  generalize body a l.head? st = x
  rcases x with _ | _ | _ | _ | _ <;> rfl

/-- well-founded induction for a `loopFix` loop followed by `k`: a property `Q` of (initial state, result) holds, and the loop
terminates, if it holds of ONE unfolding of the loop whose recursive calls `K` have it from every state of smaller measure -/
theorem D.run_loopFix_bind_induct {σ ρ : Type} {body : σ → L ρ σ σ} {k : σ → D ρ ρ} (measure : σ → Nat) (Q : σ → ρ → Prop)
    (hstep : ∀ s (K : σ → D ρ σ), (∀ s', measure s' < measure s → ∃ r, D.run (K s' >>= k) = some r ∧ Q s' r) →
      ∃ r, D.run (loopStep (body s) K >>= k) = some r ∧ Q s r) (s : σ) :
    ∃ r, D.run (loopFix body s >>= k) = some r ∧ Q s r := by
  rw [loopFix_unfold]
  exact hstep s _ fun s' _ => D.run_loopFix_bind_induct measure Q hstep s'
termination_by measure s

@[simp] theorem loopStep_pure (s : σ) (k : σ → D ρ σ) : loopStep (pure s) k = k s := rfl
@[simp] theorem loopStep_cont (s : σ) (k : σ → D ρ σ) : loopStep (cont s) k = k s := rfl
@[simp] theorem loopStep_brk (s : σ) (k : σ → D ρ σ) : loopStep (brk s) k = pure s := rfl
@[simp] theorem loopStep_ret (r : ρ) (k : σ → D ρ σ) : loopStep (ret r) k = ret r := rfl
@[simp] theorem loopStep_none (k : σ → D ρ σ) : loopStep (none : L ρ σ σ) k = none := rfl
@[simp] theorem loopStep_ite (c : Prop) [Decidable c] (x y : L ρ σ σ) (k : σ → D ρ σ) :
    loopStep (if c then x else y) k = if c then loopStep x k else loopStep y k := by
  split <;> rfl

theorem loopFix_diverges (st : σ) : loopFix (ρ := ρ) (fun s => pure s) st = none := by
  open Lean.Order in
  apply loopFix.fixpoint_induct (fun (s : σ) => (pure s : L ρ σ σ)) (motive := fun f => ∀ st, f st = none)
  · apply admissible_pi_apply (fun st (x : D ρ σ) => x = none)
    intro st
    exact admissible_flatOrder (b := (none : Option (Flow ρ σ))) _ rfl
  · intro f ih st
    exact ih st

@[simp] theorem converged_some (site : Str) (r : Res α) : converged site (some r) = r := rfl

@[simp] theorem len_nodes (l : List Node) : len l = l.length := rfl
@[simp] theorem len_tokens (l : List Token) : len l = l.length := rfl
/-- `pop`, `last`, `set_last` are evaluated by the core simp lemmas about `getLast?` / `dropLast` -/
@[simp] theorem pop_def (a : List α) : pop a = (a.getLast?, a.dropLast) := rfl
theorem set_last_def (a : List α) (x : α) : set_last a x = a.dropLast ++ [x] := rfl

/-! comparisons: not global simp lemmas, they would disturb the other agreement proofs; those of the tree builder enable them
(`AgreeFn.TreeBuilder`) -/

theorem lt_nat (a b : Nat) : lt a b = decide (a < b) := rfl
theorem le_nat (a b : Nat) : le a b = decide (a ≤ b) := rfl
theorem gt_nat (a b : Nat) : gt a b = decide (a > b) := rfl
theorem ge_nat (a b : Nat) : ge a b = decide (a ≥ b) := rfl
theorem eq_option_some [PEq α] (a b : α) : eq (some a) (some b) = eq a b := rfl
theorem eq_option_none_some [PEq α] (b : α) : eq (none : Option α) (some b) = false := rfl
theorem eq_option_some_none [PEq α] (a : α) : eq (some a) (none : Option α) = false := rfl
theorem eq_option_none [PEq α] : eq (none : Option α) none = true := rfl
@[simp] theorem eq_discriminant (a b : Operator) : eq (discriminant a) (discriminant b) = (a.kind == b.kind) := rfl
@[simp] theorem eq_operator_rootNode (o : Operator) : eq o Operator.rootNode = (o.kind == .rootNode) := by
  cases o <;> rfl
theorem eq_operator_kind {a b : Operator} (h : eq a b = true) : a.kind = b.kind := by
  change Operator.peq a b = true at h
  unfold Operator.peq at h
  split at h <;> first | rfl | exact of_decide_eq_true h
@[simp] theorem eq_token_not (t : Token) : eq t Token.not = t.isNot := by
  cases t <;> rfl
@[simp] theorem eq_token_lBrace (t : Token) : eq t Token.lBrace = t.isLBrace := by
  cases t <;> rfl

/-- two errors (`PanicEq`: two results) agree up to the site string of a panic: the translator names panic sites after the Rust
function and construct, the Model after what it models -/
def ErrSim (e' e : Err) : Prop := e' = e ∨ (e'.isPanic = true ∧ e.isPanic = true)
def PanicEq (r' r : Res α) : Prop := r' = r ∨ (r'.isPanic = true ∧ r.isPanic = true)

theorem ErrSim.refl (e : Err) : ErrSim e e := .inl rfl
theorem PanicEq.refl (r : Res α) : PanicEq r r := .inl rfl
theorem PanicEq.of_errSim {e' e : Err} (h : ErrSim e' e) : PanicEq (.error e' : Res α) (.error e) := by
  rcases h with rfl | h
  · exact .inl rfl
  · exact .inr h
theorem PanicEq.eq_of_noPanic {r' r : Res α} (h : PanicEq r' r) (hn : r.isPanic = false) : r' = r := by
  rcases h with h | ⟨_, h⟩
  · exact h
  · rw [hn] at h; cases h

/-- one pass through a translated loop body `o` against the Model's step result `m`, on related states: a new related state,
or an early `return Err(e)` with the same error up to the panic site -/
def StepSim {σ τ β : Type} (R : σ → τ → Prop) (o : L (Res β) σ σ) (m : Res τ) : Prop :=
  match m with
  | .ok t' => ∃ s', o = pure s' ∧ R s' t'
  | .error e => ∃ e', o = ret (.error e') ∧ ErrSim e' e

@[simp] theorem StepSim_ok {σ τ β : Type} (R : σ → τ → Prop) (o : L (Res β) σ σ) (t' : τ) :
    StepSim R o (.ok t') ↔ ∃ s', o = pure s' ∧ R s' t' := Iff.rfl
@[simp] theorem StepSim_error {σ τ β : Type} (R : σ → τ → Prop) (o : L (Res β) σ σ) (e : Err) :
    StepSim (τ := τ) R o (.error e) ↔ ∃ e', o = ret (.error e') ∧ ErrSim e' e := Iff.rfl
/-- `Flow.run_bind_congr` for a loop body under `StepSim` -/
theorem StepSim.bind_left {σ τ β γ : Type} {R : σ → τ → Prop} {x x' : L (Res β) σ γ} {k : γ → L (Res β) σ σ} {m : Res τ}
    (h : x = x') (h2 : StepSim R (x' >>= k) m) : StepSim R (x >>= k) m := h ▸ h2

/-- SIMULATION of a peekable loop against a recursive Model function `spec` (`hcons`: one unfolding of it runs the Model's step
function): if one pass through the translated loop body does what the Model's step does (on related states: a new related state,
or an early `return Err(e)` with the same error up to the panic site), then the translated loop followed by `k` does what `spec`
does — in particular it terminates — provided `k` agrees with `spec []` on related states. -/
theorem run_forPeek_bind_spec {α σ τ β : Type} (R : σ → τ → Prop) (step : α → Option α → τ → Res τ) (spec : List α → τ → Res β)
    {body : α → Option α → σ → L (Res β) σ σ} {k : σ → D (Res β) (Res β)} {l : List α} {s : σ} {t : τ}
    (hcons : ∀ a l t, spec (a :: l) t = step a l.head? t >>= spec l)
    (hR : R s t)
    (hbody : ∀ a nxt s t, R s t → StepSim R (body a nxt s) (step a nxt t))
    (hk : ∀ s t, R s t → ∃ r, D.run (k s) = some r ∧ PanicEq r (spec [] t)) :
    ∃ r, D.run (forPeek l s body >>= k) = some r ∧ PanicEq r (spec l t) := by
  induction l generalizing s t with
  | nil => simpa using hk s t hR
  | cons a l ih =>
    have hb := hbody a l.head? s t hR
    rw [forPeek_cons, hcons]
    cases hs : step a l.head? t with
    | ok t' =>
      obtain ⟨s', hs', hR'⟩ := hs ▸ hb
      simp only [hs', loopStep_pure]
      exact ih hR'
    | error e =>
      obtain ⟨e', he', hsim⟩ := hs ▸ hb
      simp only [he', loopStep_ret, D.ret_bind, D.run_ret]
      exact ⟨_, rfl, PanicEq.of_errSim hsim⟩

attribute [rs_exec] Flow.pure_eq Flow.val_bind Flow.ret_bind Flow.bind_assoc Flow.run_val Flow.run_ret ofErr_res
  Flow.try_ok Flow.try_error Flow.run_try_bind Flow.ret_def Flow.panic_def Flow.index_zero Flow.index_succ Flow.index_nil
  Flow.swap_remove_def Flow.unwrap_some
  M.run_pure M.run_pure_bind M.run_bind_bind M.run_ret M.run_ret_bind M.run_try_ok M.run_try_error M.run_try_bind
  M.run_panic M.run_panic_bind M.run_index_zero_bind M.run_index_succ_bind M.run_index_nil_bind
  M.run_unwrap_some_bind M.run_unwrap_none_bind M.run_call M.run_call_bind M.run_ctx_get_value_bind
  M.run_ctx_are_builtin_functions_disabled_bind M.run_ctx_set_value_bind M.run_ctx_call_function_bind
  M.run_ite M.run_ite_bind forIn_nil forIn_cons
  len_list len_str eq_nat eq_valueType eq_value ne_def clone_def cloned_def not_def is_empty_def first_def get_list
  get_map fn_call_user unwrap_or_some unwrap_or_none map_res push_def Vec.new_def into_list push_str_def
  converged_some last_concat last_nil set_last_concat pop_back_concat iter_next_nil iter_next_cons iter_def
  List.length_cons List.length_nil beq_self_eq_true if_true

end Evalexpr.Rs

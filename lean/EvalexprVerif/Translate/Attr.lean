/-
Translate/Attr.lean — the two simp sets of the agreement proofs (`Proofs/AgreeFn*.lean`).
-/
import Lean.Meta.Tactic.Simp.RegisterCommand

/-- symbolic execution of a translated body: the facts of Translate/Lemmas.lean about the control flow and the `std`
vocabulary of Translate/Prelude.lean -/
register_simp_attr rs_exec

/-- the agreement theorems of translated callees, as rewrite rules from the translated function to the Model's -/
register_simp_attr rs_agree

/-
C03 — Operators compute exact, correctly typed results or a typed error.
-/
import EvalexprVerif.Spec.RefArith
import EvalexprVerif.Proofs.AgreeFnOperator

namespace Evalexpr.Spec.C03
open Evalexpr Evalexpr.Spec

theorem strLt_eq_lexLt (a b : Str) : strLt a b = lexLt a b := by
  induction a generalizing b with
  | nil => cases b <;> rfl
  | cons x xs ih =>
    cases b with
    | nil => rfl
    | cons y ys =>
      rcases Nat.lt_trichotomy x.toNat y.toNat with h | h | h
      · simp [strLt, lexLt, h]
      · simp [strLt, lexLt, h, ih]
      · simp [strLt, lexLt, Nat.lt_asymm h, Nat.ne_of_gt h, h]

theorem i64Of_eq (z : Int) : i64Of z = if fits z then some (Int64.ofInt z) else none := rfl

theorem meets_checked (z : Int) (e : Err) (he : isArithError e = true) :
    Meets (Except.map Value.int (match i64Of z with | some r => .ok r | none => .error e))
      (exactInt z) := by
  by_cases h : fits z = true <;> simp [i64Of_eq, exactInt, h, Meets, Except.map, he]

theorem meets_div (a b : Int64) :
    Meets (Except.map Value.int (checkedDiv a b))
      (if b.toInt == 0 then .arith else exactInt (a.toInt.tdiv b.toInt)) := by
  unfold checkedDiv
  split
  · exact ⟨_, rfl, rfl⟩
  · exact meets_checked _ _ rfl
theorem meets_rem (a b : Int64) :
    Meets (Except.map Value.int (checkedRem a b))
      (if b.toInt == 0 then .arith
       else if a.toInt == -2 ^ 63 && b.toInt == -1 then .valueOrArith (.int 0)
       else exactInt (a.toInt.tmod b.toInt)) := by
  unfold checkedRem
  split
  · exact ⟨_, rfl, rfl⟩
  · split
    · exact .inr ⟨_, rfl, rfl⟩
    · exact meets_checked _ _ rfl

/-- `arith`, the body shared by `- * / %`, against `arithRef`, the shape their references share:
only the integer paths differ, and `hi` says that they agree. -/
theorem meets_arith (fi : Int64 → Int64 → Res Int64) (ff : Float → Float → Float)
    (onInt : Int → Int → RefOutcome) (hi : ∀ i j, Meets ((fi i j).map .int) (onInt i.toInt j.toInt))
    (a b : Value) : Meets (arith fi ff [a, b]) (arithRef onInt ff a b) := by
  -- a non-number on the left is a type error on both sides, whatever stands on the right; after a number the
  -- same on the right; two ints are `hi`; every other pair of numbers computes the same double on both sides
  cases a
  case int | float => cases b <;> first | exact ⟨_, rfl, rfl⟩ | rfl | exact hi _ _
  all_goals exact ⟨_, rfl, rfl⟩

/-- `compare`, the body shared by `> < >= <=`, against `orderRef` -/
theorem meets_compare (c : Cmp) (onInt : Int → Int → Bool) (onFloat : Float → Float → Bool)
    (onStr : Str → Str → Bool) (hi : ∀ i j : Int64, c.onInt i j = onInt i.toInt j.toInt)
    (hf : ∀ x y, c.onFloat x y = onFloat x y) (hs : ∀ s t, c.onStr s t = onStr s t) (a b : Value) :
    Meets (compare c [a, b]) (orderRef onInt onFloat onStr a b) := by
  -- a type error on both sides, or two strings (`hs`), two ints (`hi`), two numbers one of them a float (`hf`)
  cases a
  case string | int | float =>
    cases b <;>
      first
      | exact ⟨_, rfl, rfl⟩
      | exact congrArg (fun x => Except.ok (Value.boolean x)) (hs _ _)
      | exact congrArg (fun x => Except.ok (Value.boolean x)) (hi _ _)
      | exact congrArg (fun x => Except.ok (Value.boolean x)) (hf _ _)
  all_goals exact ⟨_, rfl, rfl⟩

/-- **C03 (binary)**: for every operator and every pair of operand values, in every context,
the evaluator's result meets the reference outcome. -/
theorem C03_binary (op : BinOp) (a b : Value) (s : St) :
    Meets (op.toOperator.eval [a, b] s).1 (refBinary op a b) := by
  cases op
  -- `+` has a body of its own (strings concatenate); the alternatives are those of `meets_arith`
  case add =>
    cases a
    case string | int | float => cases b <;> first | exact ⟨_, rfl, rfl⟩ | rfl | exact meets_checked _ _ rfl
    all_goals exact ⟨_, rfl, rfl⟩
  case sub =>
    exact meets_arith checkedSub (· - ·) (fun x y => exactInt (x - y))
      (fun _ _ => meets_checked _ _ rfl) a b
  case mul =>
    exact meets_arith checkedMul (· * ·) (fun x y => exactInt (x * y))
      (fun _ _ => meets_checked _ _ rfl) a b
  case div =>
    exact meets_arith checkedDiv (· / ·) (fun x y => if y == 0 then .arith else exactInt (x.tdiv y))
      meets_div a b
  case mod =>
    exact meets_arith checkedRem F64.fmod (fun x y =>
      if y == 0 then .arith
      else if x == -2 ^ 63 && y == -1 then .valueOrArith (.int 0)
      else exactInt (x.tmod y)) meets_rem a b
  case exp =>
    cases a
    case int | float => cases b <;> first | exact ⟨_, rfl, rfl⟩ | rfl
    all_goals exact ⟨_, rfl, rfl⟩
  case and | or =>
    cases a
    case boolean => cases b <;> first | exact ⟨_, rfl, rfl⟩ | rfl
    all_goals exact ⟨_, rfl, rfl⟩
  case eq | neq => rfl
  case gt =>
    exact meets_compare .gt (· > ·) (· > ·) (fun s t => lexLt t s) (fun _ _ => rfl) (fun _ _ => rfl)
      (fun s t => strLt_eq_lexLt t s) a b
  case lt =>
    exact meets_compare .lt (· < ·) (· < ·) lexLt (fun _ _ => rfl) (fun _ _ => rfl)
      strLt_eq_lexLt a b
  case geq =>
    exact meets_compare .geq (· ≥ ·) (· ≥ ·) (fun s t => !lexLt s t) (fun _ _ => rfl)
      (fun _ _ => rfl) (fun s t => congrArg (!·) (strLt_eq_lexLt s t)) a b
  case leq =>
    exact meets_compare .leq (· ≤ ·) (· ≤ ·) (fun s t => !lexLt t s) (fun _ _ => rfl)
      (fun _ _ => rfl) (fun s t => congrArg (!·) (strLt_eq_lexLt t s)) a b

theorem C03_unary (op : UnOp) (a : Value) (s : St) :
    Meets (op.toOperator.eval [a] s).1 (refUnary op a) := by
  cases op <;> cases a <;> first | exact ⟨_, rfl, rfl⟩ | rfl | exact meets_checked _ _ rfl

/-! ### about the code as translated on this run
`Gen.Operator.eval` is the body of `Operator::eval` (src/operator/mod.rs) rendered by `translate_fn.py`; by
`fn_Operator_eval_agree` the two main theorems are statements about that text. -/
theorem C03_binary_generated (op : BinOp) (a b : Value) (s : St) :
    Meets (Gen.Operator.eval op.toOperator [a, b] s).1 (refBinary op a b) := by
  rw [AgreeFn.fn_Operator_eval_agree]; exact C03_binary op a b s
theorem C03_unary_generated (op : UnOp) (a : Value) (s : St) :
    Meets (Gen.Operator.eval op.toOperator [a] s).1 (refUnary op a) := by
  rw [AgreeFn.fn_Operator_eval_agree]; exact C03_unary op a s

theorem toInt_ofInt_of_fits {z : Int} (h : fits z = true) : (Int64.ofInt z).toInt = z := by
  simp only [fits, Bool.and_eq_true, decide_eq_true_eq] at h
  exact Int64.toInt_ofInt_of_le h.1 h.2

/-- the value an in-range integer result denotes is the exact mathematical result -/
theorem exactInt_value (z : Int) (v : Value) (h : exactInt z = .value v) :
    ∃ r : Int64, v = .int r ∧ r.toInt = z := by
  unfold exactInt at h
  split at h
  · cases h; exact ⟨_, rfl, toInt_ofInt_of_fits ‹_›⟩
  · cases h

theorem meets_value_exact (r : Res Value) (z : Int) (x : Int64) (h : Meets r (exactInt z))
    (hr : r = .ok (.int x)) : x.toInt = z := by
  subst hr
  unfold exactInt at h
  split at h
  · cases h; exact toInt_ofInt_of_fits ‹_›
  · obtain ⟨e, he, _⟩ := h; cases he

/-- **C03 (no wrap-around)**: an integer result of `+ - * / %` on two ints, and of unary `-`,
is the exact mathematical result. -/
theorem C03_no_wrap_add (a b r : Int64) (s : St)
    (h : (Operator.eval .add [.int a, .int b] s).1 = .ok (.int r)) : r.toInt = a.toInt + b.toInt :=
  meets_value_exact _ _ _ (C03_binary .add (.int a) (.int b) s) h

theorem C03_no_wrap_sub (a b r : Int64) (s : St)
    (h : (Operator.eval .sub [.int a, .int b] s).1 = .ok (.int r)) : r.toInt = a.toInt - b.toInt :=
  meets_value_exact _ _ _ (C03_binary .sub (.int a) (.int b) s) h

theorem C03_no_wrap_mul (a b r : Int64) (s : St)
    (h : (Operator.eval .mul [.int a, .int b] s).1 = .ok (.int r)) : r.toInt = a.toInt * b.toInt :=
  meets_value_exact _ _ _ (C03_binary .mul (.int a) (.int b) s) h

theorem C03_no_wrap_neg (a r : Int64) (s : St)
    (h : (Operator.eval .neg [.int a] s).1 = .ok (.int r)) : r.toInt = -a.toInt :=
  meets_value_exact _ _ _ (C03_unary .neg (.int a) s) h

theorem C03_no_wrap_div (a b r : Int64) (s : St)
    (h : (Operator.eval .div [.int a, .int b] s).1 = .ok (.int r)) :
    b.toInt ≠ 0 ∧ r.toInt = a.toInt.tdiv b.toInt := by
  have hm : Meets (Operator.eval .div [.int a, .int b] s).1 _ := meets_div a b
  rw [h] at hm
  split at hm
  · obtain ⟨e, he, _⟩ := hm; cases he
  · exact ⟨by simpa using ‹¬ (b.toInt == 0) = true›, meets_value_exact _ _ _ hm rfl⟩

/-- **C03 (overflow is an error, exactly when the exact result does not fit)** for `+`. -/
theorem C03_arith_iff_add (a b : Int64) (s : St) :
    (∃ e, (Operator.eval .add [.int a, .int b] s).1 = .error e ∧ isArithError e = true)
      ↔ ¬ (-2 ^ 63 ≤ a.toInt + b.toInt ∧ a.toInt + b.toInt < 2 ^ 63) := by
  have hm : Meets (Operator.eval .add [.int a, .int b] s).1 (exactInt (a.toInt + b.toInt)) :=
    C03_binary .add (.int a) (.int b) s
  have hf : fits (a.toInt + b.toInt) = true ↔
      -2 ^ 63 ≤ a.toInt + b.toInt ∧ a.toInt + b.toInt < 2 ^ 63 := by simp [fits]
  unfold exactInt at hm
  split at hm
  · have hm : _ = Except.ok _ := hm
    simpa [hm] using hf.mp ‹_›
  · exact ⟨fun _ h => ‹¬ _› (hf.mpr h), fun _ => hm⟩

/-! ### non-vacuity: concrete instances (kernel evaluation) -/

/-- `MAX + 1` is an arithmetic error, not a wrapped value -/
example (s : St) : ∃ e, (Operator.eval .add [.int 9223372036854775807, .int 1] s).1 = .error e ∧
    isArithError e = true := by
  have := (C03_arith_iff_add 9223372036854775807 1 s).mpr (by decide)
  exact this

/-- `7 / 2 = 3`, `-7 % 2 = -1` (truncation, dividend's sign) -/
example (s : St) : (Operator.eval .div [.int 7, .int 2] s).1 = .ok (.int 3) := by rfl
example (s : St) : (Operator.eval .mod [.int (-7), .int 2] s).1 = .ok (.int (-1)) := by rfl
example (s : St) : ∃ e, (Operator.eval .div [.int 1, .int 0] s).1 = .error e := ⟨_, rfl⟩

end Evalexpr.Spec.C03

/-
C08 — Strict left-to-right evaluation; the first error wins.

The reference interpreter is the big-step relation `Spec.Eval` (Spec/BigStep.lean): children exactly
once each, in order, state threaded, first failing child ends the evaluation, operator applied once
afterwards. `C08_adequate`: the evaluator model computes exactly that relation, for every tree,
context and log. Proofs: Proofs/EvalInduction, EvalOps, EvalOrder, EvalOnce.
-/
import EvalexprVerif.Proofs.EvalOrder
import EvalexprVerif.Proofs.EvalOnce
import EvalexprVerif.Proofs.AgreeFnTree

namespace Evalexpr.Spec.C08
open Evalexpr Evalexpr.Spec

/-- **C08 (main)**: the evaluator is the reference interpreter -/
theorem C08_adequate (n : Node) (s s' : St) (r : Res Value) : Eval n s r s' ↔ n.evalMut s = (r, s') :=
  Evalexpr.Spec.C08_adequate n s s' r
theorem C08_deterministic (n : Node) (s s₁ s₂ : St) (r₁ r₂ : Res Value)
    (h₁ : Eval n s r₁ s₁) (h₂ : Eval n s r₂ s₂) : r₁ = r₂ ∧ s₁ = s₂ :=
  Evalexpr.Spec.C08_deterministic n s s₁ s₂ r₁ r₂ h₁ h₂
/-- effects before the failing sub-expression persist, none after it occur -/
theorem C08_first_error (op : Operator) (pre post : List Node) (k : Node) (s s₁ s₂ : St)
    (vs : List Value) (e : Err)
    (hpre : evalMutList pre s = (.ok vs, s₁)) (hk : k.evalMut s₁ = (.error e, s₂)) :
    (Node.mk op (pre ++ k :: post)).evalMut s = (.error e, s₂) :=
  Evalexpr.Spec.C08_first_error op pre post k s s₁ s₂ vs e hpre hk
/-- all operands are evaluated before the operator is applied: no short-circuiting -/
theorem C08_all_operands (op : Operator) (cs : List Node) (s s' : St) (vs : List Value)
    (h : evalMutList cs s = (.ok vs, s')) : (Node.mk op cs).evalMut s = op.evalMut vs s' :=
  Evalexpr.Spec.C08_all_operands op cs s s' vs h
theorem C08_log_grows (n : Node) (s : St) : ∃ l, (n.evalMut s).2.log = s.log ++ l :=
  evalMut_rel (fun s s' => ∃ l, s'.log = s.log ++ l) (fun s => ⟨[], by simp⟩)
    (fun a b c ⟨l₁, h₁⟩ ⟨l₂, h₂⟩ => ⟨l₁ ++ l₂, by rw [h₂, h₁, List.append_assoc]⟩)
    evalMut_op_log n s
/-- **C08 about the code as translated on this run**: `Gen.Node.eval_with_context_mut` — the body of
`Node::eval_with_context_mut` (src/tree/mod.rs) rendered by `translate_fn.py`, calling the rendered `Operator::eval_mut` —
computes exactly the big-step relation (`fn_Node_eval_with_context_mut_agree` + `C08_adequate`); likewise the read-only walker
computes the model's read-only evaluator -/
theorem C08_adequate_generated (n : Node) (s s' : St) (r : Res Value) :
    Eval n s r s' ↔ Gen.Node.eval_with_context_mut n s = (r, s') := by
  rw [AgreeFn.fn_Node_eval_with_context_mut_agree]; exact C08_adequate n s s' r
theorem C08_generated_ro (n : Node) (s : St) : Gen.Node.eval_with_context n s = n.evalRO s :=
  AgreeFn.fn_Node_eval_with_context_agree n s
/-- `false && f(1)` still calls `f` -/
theorem C08_no_short_circuit_example :
    let ctx : Ctx := .hashMap { funs := [(['f'], fun v => .ok v)] }
    let tree : Node := ⟨.and, [⟨.const (.boolean false), []⟩, ⟨.fn ['f'], [⟨.const (.int 1), []⟩]⟩]⟩
    (tree.evalMut ⟨ctx, []⟩).2.log = [(['f'], .int 1)] := rfl

/-! ### "exactly once": counting theorems (definitions in Spec/Once.lean, proofs in Proofs/EvalOnce.lean)

`callSites c n`: identifiers of the nodes `.fn id` of `n` with `c.userFn id = some _` (the
user-function application sites), in post-order; `fnCalls c n`: their number. The call log records
one entry per invocation of a user function, so comparing the log with `callSites` counts
executions: none skipped (no short-circuit), none repeated, in source order. -/

/-- a context for the examples: `f` is the identity, `bad` fails, and `typeof` shadows the builtin
of that name by answering `FunctionIdentifierNotFound` (finding K2: the builtin then runs) -/
def exCtx : Ctx := .hashMap { funs := [
  (['f'], fun v => .ok v),
  (['b', 'a', 'd'], fun _ => .error (.customMessage ['n', 'o'])),
  (cl!"typeof", fun _ => .error (.functionIdentifierNotFound cl!"typeof"))] }
def exLit (i : Int64) : Node := ⟨.const (.int i), []⟩
def exCall (id : Str) (arg : Node) : Node := ⟨.fn id, [arg]⟩

/-- **C08 (functions are fixed)**: evaluation can bind variables but never defines, removes or
replaces a user function, and never flips the builtin switch — so "the user-function application
sites of a tree" means the same thing before, during and after its evaluation -/
theorem C08_userFns_preserved (n : Node) (s : St) :
    (∀ id, (n.evalMut s).2.ctx.userFn id = s.ctx.userFn id) ∧
      (n.evalMut s).2.ctx.builtinsDisabled = s.ctx.builtinsDisabled :=
  (evalMut_once n s).1
theorem C08_userFns_preserved_RO (n : Node) (s : St) :
    (∀ id, (n.evalRO s).2.ctx.userFn id = s.ctx.userFn id) ∧
      (n.evalRO s).2.ctx.builtinsDisabled = s.ctx.builtinsDisabled :=
  (evalRO_once n s).1
/-- `f = 1` binds the variable `f` and leaves the function `f` in place -/
example :
    let r := (Node.mk .assign [⟨.varWrite ['f'], []⟩, exLit 1]).evalMut ⟨exCtx, []⟩
    resOk r.1 = true ∧ (r.2.ctx.getValue ['f']).isSome = true ∧
      (r.2.ctx.userFn ['f']).isSome = true := by
  decide

/-- **C08 (exactly once, count)**: a successful evaluation makes exactly as many user-function
calls as the tree has user-function application sites -/
theorem C08_once_count (n : Node) (s s' : St) (v : Value) (h : n.evalMut s = (.ok v, s')) :
    s'.log.length = s.log.length + fnCalls s.ctx n :=
  Evalexpr.Spec.C08_once_count n s s' v h
theorem C08_once_count_RO (n : Node) (s s' : St) (v : Value) (h : n.evalRO s = (.ok v, s')) :
    s'.log.length = s.log.length + fnCalls s.ctx n := by
  have := evalRO_once n s
  rw [h] at this
  rw [fnCalls_eq_length]
  exact this.length.2 rfl
/-- `f(false) && f(true)`: two sites, two calls, although the left operand decides the result;
the builtin call in `typeof(1)` without a shadowing function is not a site -/
example :
    let tree : Node :=
      ⟨.and, [exCall ['f'] ⟨.const (.boolean false), []⟩,
        exCall ['f'] ⟨.const (.boolean true), []⟩]⟩
    fnCalls exCtx tree = 2 ∧ (tree.evalMut ⟨exCtx, []⟩).2.log.length = 2 ∧
      resOk (tree.evalMut ⟨exCtx, []⟩).1 = true ∧
      fnCalls .emptyWithBuiltins (exCall cl!"typeof" (exLit 1)) = 0 := by
  decide

/-- **C08 (exactly once, order)**: on success the names in the call log are, after those already
there, exactly the application sites of the tree in post-order: arguments before the function that
takes them, siblings left to right -/
theorem C08_once_order (n : Node) (s s' : St) (v : Value) (h : n.evalMut s = (.ok v, s')) :
    s'.log.map (·.1) = s.log.map (·.1) ++ callSites s.ctx n :=
  Evalexpr.Spec.C08_once_order n s s' v h
theorem C08_once_order_RO (n : Node) (s s' : St) (v : Value) (h : n.evalRO s = (.ok v, s')) :
    s'.log.map (·.1) = s.log.map (·.1) ++ callSites s.ctx n := by
  have := evalRO_once n s
  rw [h] at this
  exact this.order
/-- `typeof((f(1), max(2, 3)))` with `typeof` shadowed (K2): the argument's `f` first, then
`typeof`, logged once although the builtin runs after it; `max` is a builtin and not a site -/
example :
    let tree : Node :=
      exCall cl!"typeof"
        ⟨.tuple, [exCall ['f'] (exLit 1), exCall cl!"max" ⟨.tuple, [exLit 2, exLit 3]⟩]⟩
    callSites exCtx tree = [['f'], cl!"typeof"] ∧
      (tree.evalMut ⟨exCtx, []⟩).2.log.map (·.1) = [['f'], cl!"typeof"] ∧
      resOk (tree.evalMut ⟨exCtx, []⟩).1 = true := by
  decide

/-- **C08 (failure: a prefix)**: when the evaluation fails, the calls made are an initial segment of
the application sites in post-order: in source order, none twice, none after the failure point -/
theorem C08_once_prefix (n : Node) (s s' : St) (e : Err) (h : n.evalMut s = (.error e, s')) :
    ∃ p, p <+: callSites s.ctx n ∧ s'.log.map (·.1) = s.log.map (·.1) ++ p :=
  Evalexpr.Spec.C08_once_prefix n s s' e h
theorem C08_once_prefix_RO (n : Node) (s s' : St) (e : Err) (h : n.evalRO s = (.error e, s')) :
    ∃ p, p <+: callSites s.ctx n ∧ s'.log.map (·.1) = s.log.map (·.1) ++ p := by
  have := evalRO_once n s
  rw [h] at this
  exact this.prefix
/-- whatever the result, no site is executed more than once -/
theorem C08_at_most_once (n : Node) (s : St) :
    (n.evalMut s).2.log.length ≤ s.log.length + fnCalls s.ctx n :=
  Evalexpr.Spec.C08_at_most_once n s
/-- `f(1) + (bad(2) + f(3))`: `f`, then `bad`, which fails; the second `f` is never called -/
example :
    let tree : Node :=
      ⟨.add, [exCall ['f'] (exLit 1), ⟨.add, [exCall cl!"bad" (exLit 2), exCall ['f'] (exLit 3)]⟩]⟩
    callSites exCtx tree = [['f'], cl!"bad", ['f']] ∧
      (tree.evalMut ⟨exCtx, []⟩).2.log.map (·.1) = [['f'], cl!"bad"] ∧
      resOk (tree.evalMut ⟨exCtx, []⟩).1 = false := by
  decide

/-- **C08 (operators applied once)**: the evaluator instrumented with a counter of
`Operator.evalMut` invocations computes the same result and state; on success the counter is the
number of nodes of the tree (with `C08_adequate`: one application per node), and it never exceeds
that number -/
theorem C08_ops_once (n : Node) (s : St) :
    ((evalMutCount n s).1, (evalMutCount n s).2.1) = n.evalMut s ∧
      (evalMutCount n s).2.2 ≤ nodeSize n ∧
      (∀ v s', n.evalMut s = (.ok v, s') → (evalMutCount n s).2.2 = nodeSize n) :=
  ⟨(evalMutCount_counted n s).1, (evalMutCount_counted n s).2.1,
    fun v s' h => Evalexpr.Spec.C08_ops_once n s s' v h⟩
/-- `f(1) + f(2)`: five nodes, five applications; `bad(1) + f(2)`: the failing `bad` node is the
second and last application -/
example :
    let ok : Node := ⟨.add, [exCall ['f'] (exLit 1), exCall ['f'] (exLit 2)]⟩
    let ko : Node := ⟨.add, [exCall cl!"bad" (exLit 1), exCall ['f'] (exLit 2)]⟩
    nodeSize ok = 5 ∧ (evalMutCount ok ⟨exCtx, []⟩).2.2 = 5 ∧
      nodeSize ko = 5 ∧ (evalMutCount ko ⟨exCtx, []⟩).2.2 = 2 := by
  decide

end Evalexpr.Spec.C08

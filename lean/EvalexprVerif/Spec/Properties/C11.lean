/-
C11 — Read-only evaluation equals mutable evaluation and never mutates.
`C11_project`: for EVERY tree and state, the read-only evaluator returns the projection of the
mutable run stopped where it would apply an assignment operator (`Spec.evalStop`): ContextNotMutable
iff an assignment is reached before the run finishes or fails, otherwise the very same outcome.
Proofs: Proofs/EvalOrder.
-/
import EvalexprVerif.Proofs.EvalOrder
import EvalexprVerif.Proofs.AgreeEvalArms
import EvalexprVerif.Proofs.AgreeFnTree

namespace Evalexpr.Spec.C11
open Evalexpr Evalexpr.Spec

theorem C11_readonly (n : Node) (s : St) : (n.evalRO s).2.ctx = s.ctx := Evalexpr.Spec.C11_readonly n s
theorem C11_agree (n : Node) (s : St) (h : noAssign n = true) : n.evalRO s = n.evalMut s :=
  Evalexpr.Spec.C11_agree n s h
theorem C11_noassign_ctx (n : Node) (s : St) (h : noAssign n = true) : (n.evalMut s).2.ctx = s.ctx := by
  rw [← C11_agree n s h]; exact C11_readonly n s
/-- **C11 (main)** -/
theorem C11_project (n : Node) (s : St) : n.evalRO s = projectStop (evalStop n s) :=
  Evalexpr.Spec.C11_project n s
theorem C11_stop_finished (n : Node) (s s' : St) (r : Res Value)
    (h : evalStop n s = (.finished r, s')) : n.evalMut s = (r, s') := by
  have := evalStop_spec.1 n s
  rw [h] at this
  exact this.2
theorem C11_nostorage_ctx (n : Node) (s : St) (h : HashMapCtx) (hs : s.ctx = .noStorage h) :
    (n.evalMut s).2.ctx = s.ctx := Evalexpr.Spec.C11_nostorage_ctx n s h hs
theorem C11_nostorage_assign (op : Operator) (args : List Value) (s : St) (h : HashMapCtx)
    (hop : Operator.isAssignKind op = true) (hs : s.ctx = .noStorage h) :
    ∃ e, (op.evalMut args s).1 = .error e := Evalexpr.Spec.C11_nostorage_assign op args s h hop hs

/-- **C11 about the code as translated on this run**: the rendered `Node::eval_with_context` returns the projection of the
rendered `Node::eval_with_context_mut` stopped at the first applied assignment, and leaves the context unchanged -/
theorem C11_project_generated (n : Node) (s : St) :
    Gen.Node.eval_with_context n s = projectStop (evalStop n s) ∧ (Gen.Node.eval_with_context n s).2.ctx = s.ctx := by
  rw [AgreeFn.fn_Node_eval_with_context_agree]; exact ⟨C11_project n s, C11_readonly n s⟩
theorem C11_agree_generated (n : Node) (s : St) (h : noAssign n = true) :
    Gen.Node.eval_with_context n s = Gen.Node.eval_with_context_mut n s := by
  rw [AgreeFn.fn_Node_eval_with_context_agree, AgreeFn.fn_Node_eval_with_context_mut_agree]; exact C11_agree n s h

/-- an error before the assignment is reported, not ContextNotMutable: `zz + (a = 1)` -/
example : ((Node.mk .add [⟨.varRead ['z'], []⟩, ⟨.assign, [⟨.varWrite ['a'], []⟩, ⟨.const (.int 1), []⟩]⟩]).evalRO
    ⟨.hashMap {}, []⟩).1 = .error (.variableIdentifierNotFound ['z']) := rfl
example : ((Node.mk .assign [⟨.varWrite ['a'], []⟩, ⟨.const (.int 1), []⟩]).evalRO ⟨.hashMap {}, []⟩).1
    = .error .contextNotMutable := rfl

end Evalexpr.Spec.C11

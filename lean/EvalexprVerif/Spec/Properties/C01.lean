/-
C01 — The library never panics, whatever the input.
Every model function returns `.error (.panic site)` exactly where the Rust has an `unwrap()`,
`unreachable!()`, slice index, … ; C01 is the statement that this outcome is unreachable:
`C01_lex` (every string), `C01_build` (EVERY token sequence: a stack-shape invariant shows the
`unwrap`s of insert_back_prioritized and both `unreachable!()`s of the token loop cannot fire),
`C01_eval_mut` / `C01_eval_ro` (every tree — also ill-formed and hand-built ones — in every context
whose user functions do not panic), `C10_no_panic` (every builtin on every argument), and
`C01_run_string` / `C01_run_tree`: all 48 entry points. `C01_depth`: the tree is no deeper than
(#tokens + #separators + 1), which bounds every recursion by the input length (the README tells users
to bound input length). The inventory of potentially panicking constructs is re-extracted from the
source on every run and proved equal to the audited list (`panicSites_agree`): a new `unwrap`, index
or `unreachable!` is a broken obligation.
PARTIAL (runtime, not modelled): stack and heap are unbounded in the model. The harness measures that
the maximal nestings of a 4096-character input fit an 8 MiB stack; memory exhaustion by exponential
value growth within the 4096-character bound is known finding K1.
Proofs: Proofs/NoPanic*.lean (over Proofs/TreeLevels, EvalInduction, ErrorSweep), Proofs/BuiltinMeets.
-/
import EvalexprVerif.Proofs.NoPanic
import EvalexprVerif.Proofs.BuiltinMeets
import EvalexprVerif.Proofs.AgreePanic
import EvalexprVerif.Proofs.AgreeFnTree

namespace Evalexpr.Spec.C01
open Evalexpr Evalexpr.Spec

theorem builtinsNoPanic : BuiltinsNoPanic := fun b arg => Evalexpr.Spec.C10_no_panic b arg

theorem C01_lex (s : List Char) : (tokenize s).isPanic = false := Evalexpr.Spec.C01_lex s
theorem C01_build (ts : List Token) : (tokensToOperatorTree ts).isPanic = false := Evalexpr.Spec.C01_build ts
theorem C01_build_string (s : List Char) : (buildOperatorTree s).isPanic = false :=
  buildString_noPanic s
theorem C01_builtin (b : Builtin) (arg : Value) : (b.call arg).isPanic = false := Evalexpr.Spec.C10_no_panic b arg
theorem C01_eval_mut (n : Node) (s : St) (hc : NoPanicCtx s.ctx) :
    (n.evalMut s).1.isPanic = false ∧ NoPanicCtx (n.evalMut s).2.ctx :=
  Evalexpr.Spec.C01_eval_mut builtinsNoPanic n s hc
theorem C01_eval_ro (n : Node) (s : St) (hc : NoPanicCtx s.ctx) :
    (n.evalRO s).1.isPanic = false ∧ NoPanicCtx (n.evalRO s).2.ctx :=
  Evalexpr.Spec.C01_eval_ro builtinsNoPanic n s hc
/-- **C01 (all 48 entry points)** -/
theorem C01_run_tree (k : Kind) (m : Mode) (n : Node) (s : St) (hc : NoPanicCtx s.ctx) :
    (runTree k m n s).1.isPanic = false := Evalexpr.Spec.C01_run_tree builtinsNoPanic k m n s hc
theorem C01_run_string (k : Kind) (m : Mode) (src : List Char) (s : St) (hc : NoPanicCtx s.ctx) :
    (runString k m src s).1.isPanic = false := Evalexpr.Spec.C01_run_string builtinsNoPanic k m src s hc
/-- recursion depth is bounded by the input length -/
theorem C01_depth (ts : List Token) (t : Node) (h : tokensToOperatorTree ts = .ok t) :
    Node.depth t ≤ 2 * ts.length + 1 := by
  have h1 := Evalexpr.Spec.C01_depth ts t h
  have h2 : ts.countP isSepTok ≤ ts.length := List.countP_le_length
  omega

/-- … in terms of the input string: no deeper than twice its length plus one -/
theorem C01_depth_string (s : List Char) (t : Node) (h : buildOperatorTree s = .ok t) :
    Node.depth t ≤ 2 * s.length + 1 := by
  unfold buildOperatorTree at h
  cases ht : tokenize s with
  | error e => rw [ht] at h; cases h
  | ok ts =>
    rw [ht] at h
    have h1 := C01_depth ts t h
    have h2 := Evalexpr.Spec.tokenize_length s ts ht
    omega

/-! ### the same about the code AS TRANSLATED on this run

`Generated/FnOperator.lean` / `FnTree.lean` are the bodies of `Operator::eval`, `Operator::eval_mut`,
`Node::eval_with_context` and `Node::eval_with_context_mut` rendered by `translate_fn.py`, with every slice index
(`arguments[0]`, `arguments[1]`), `unwrap()` and `unreachable!()` of the Rust text kept as an explicit panic outcome
(`Rs.index`, `Rs.unwrap`, `Rs.panic`). Through the agreement theorems the no-panic theorems above are statements about
that text: none of these sites can fire, for any tree (also hand-built, wrong-arity ones), argument list and context. -/

theorem C01_generated_eval_ro (n : Node) (s : St) (hc : NoPanicCtx s.ctx) :
    (Gen.Node.eval_with_context n s).1.isPanic = false := by
  rw [AgreeFn.fn_Node_eval_with_context_agree]; exact (C01_eval_ro n s hc).1
theorem C01_generated_eval_mut (n : Node) (s : St) (hc : NoPanicCtx s.ctx) :
    (Gen.Node.eval_with_context_mut n s).1.isPanic = false := by
  rw [AgreeFn.fn_Node_eval_with_context_mut_agree]; exact (C01_eval_mut n s hc).1
/-- the operator application alone, on ANY argument list (wrong lengths included: the index sites are guarded) -/
theorem C01_generated_operator_eval (op : Operator) (args : List Value) (s : St) (hc : NoPanicCtx s.ctx) :
    (Gen.Operator.eval_mut op args s).1.isPanic = false := by
  rw [AgreeFn.fn_Operator_eval_mut_agree]
  exact (C01_operator_evalMut builtinsNoPanic op args s hc).1

/-- the three provided kinds of context satisfy the hypothesis when their user functions do -/
example : NoPanicCtx .empty := fun _ _ _ h => by cases h
example : NoPanicCtx .emptyWithBuiltins := fun _ _ _ h => by cases h
example : NoPanicCtx (.hashMap {}) := fun _ _ _ h => by cases h

end Evalexpr.Spec.C01

/-
C05 — Tuples and chains compose: `,` aggregates, `;` sequences.

`C05_tree`: for EVERY well-formed level (a chain by `;` of tuples by `,` of optional operands, each
operand an expression or a parenthesised level, any depth, any absent elements) the tree builder
returns exactly the reference tree `levelTree` (chain of tuples, one root per element, nesting only
through parentheses). `C05_*_value`: a chain evaluates all members in order and yields the last, a
tuple is the flat tuple of its elements' values, an absent element / `()` is the empty value.
Proofs: Proofs/ParseExpr, Proofs/ParseSeq (tree), Proofs/EvalOrder (values).
-/
import EvalexprVerif.Proofs.LexExt
import EvalexprVerif.Proofs.ParseSeq
import EvalexprVerif.Proofs.EvalOrder
import EvalexprVerif.Proofs.AgreeOperator
import EvalexprVerif.Proofs.LexRoundtrip
import EvalexprVerif.Proofs.AgreeFnTokensToTree

namespace Evalexpr.Spec.C05
open Evalexpr Evalexpr.Spec

/-- **C05 (tree)** -/
theorem C05_tree (l : Level) (h : levelWf l = true) :
    tokensToOperatorTree (renderLevel l) = .ok (levelTree l) := Evalexpr.Spec.C05_tree l h

/-- **C05 about the code as translated on this run** (`Gen.tokens_to_operator_tree`: the rendered body of
`tokens_to_operator_tree` with its sequence branches and the rendered `collapse_root_stack_to` / `collapse_all_sequences`):
on the tokens of every well-formed level it terminates and returns the reference tree of the level -/
theorem C05_tree_generated (l : Level) (h : levelWf l = true) :
    Gen.tokens_to_operator_tree (renderLevel l) = some (.ok (levelTree l)) := by
  rw [AgreeFn.fn_tokens_to_operator_tree_agree, C05_tree l h]

/-- … in every literal spelling with the weakest separation the lexer needs (extended round trip) -/
theorem C05_string_ext (l : Level) (h : levelWf l = true) (ps : List (Gap × PTok)) (g : Gap)
    (hts : ps.map (·.2.tok) = renderLevel l) (hp : ∀ p ∈ ps, p.2.PrintableX) (ha : AdmissibleX ps g) :
    buildOperatorTree (renderFrom ps g) = .ok (levelTree l) := by
  rw [buildOperatorTree_render ps g hp ha, hts]
  exact C05_tree l h

/-- **C05 (string level)**: any spelling of the level's tokens with any admissible gaps -/
theorem C05_string (l : Level) (h : levelWf l = true) (ps : List (Gap × PTok)) (g : Gap)
    (hts : ps.map (·.2.tok) = renderLevel l) (hp : ∀ p ∈ ps, p.2.Printable) (ha : Admissible ps g) :
    buildOperatorTree (renderFrom ps g) = .ok (levelTree l) :=
  C05_string_ext l h ps g hts (fun p h => .inl (hp p h)) (admissibleX_of_admissible ps g ha)

/-- `,` binds tighter than `;`, both weaker than every other operator -/
theorem C05_tables :
    Operator.chain.precedence < Operator.tuple.precedence ∧ Operator.tuple.precedence < Operator.assign.precedence ∧
      Operator.tuple.isSequence = true ∧ Operator.chain.isSequence = true ∧
      Operator.tuple.maxArgumentAmount = none ∧ Operator.chain.maxArgumentAmount = none := by decide

/-- an absent element, and `()`, is the empty value -/
theorem C05_absent (s : St) : (Node.mk .rootNode []).evalMut s = (.ok .empty, s) := by
  rw [Node.evalMut, evalMutList]; rfl
/-- an element's root node is transparent -/
theorem C05_element (c : Node) (s : St) : (Node.mk .rootNode [c]).evalMut s = c.evalMut s := by
  rw [Node.evalMut, evalMutList]
  simp only [evalMutList]
  rcases c.evalMut s with ⟨r, s'⟩
  cases r <;> rfl
/-- `,` builds one flat tuple of all its elements, evaluated left to right -/
theorem C05_tuple (cs : List Node) (s s' : St) (vs : List Value)
    (h : evalMutList cs s = (.ok vs, s')) : (Node.mk .tuple cs).evalMut s = (.ok (.tuple vs), s') := by
  rw [C08_all_operands .tuple cs s s' vs h]; rfl
/-- `;` evaluates all its elements in order and yields the last one -/
theorem C05_chain (cs : List Node) (s s' : St) (vs : List Value) (v : Value)
    (h : evalMutList cs s = (.ok vs, s')) (hl : vs.getLast? = some v) :
    (Node.mk .chain cs).evalMut s = (.ok v, s') := by
  rw [C08_all_operands .chain cs s s' vs h]
  show (Operator.evalPure .chain vs, s') = _
  dsimp only [Operator.evalPure]
  rw [hl]

/-- a chain ending in `;` evaluates to the empty value: `1;` -/
example : tokensToOperatorTree [.int 1, .semicolon] =
    .ok ⟨.rootNode, [⟨.chain, [⟨.rootNode, [⟨.const (.int 1), []⟩]⟩, ⟨.rootNode, []⟩]⟩]⟩ :=
  C05_tree [[some (.expr (.lit (.int 1)))], [none]] rfl

/-- `a, b; c, d` is a chain of two tuples (before the fix 93b37d2 of /repo `1, 2; 3` failed with UnmatchedRBrace) -/
example : tokensToOperatorTree [.int 1, .comma, .int 2, .semicolon, .int 3] =
    .ok ⟨.rootNode, [⟨.chain, [⟨.tuple, [⟨.rootNode, [⟨.const (.int 1), []⟩]⟩, ⟨.rootNode, [⟨.const (.int 2), []⟩]⟩]⟩,
      ⟨.rootNode, [⟨.const (.int 3), []⟩]⟩]⟩]⟩ :=
  C05_tree [[some (.expr (.lit (.int 1))), some (.expr (.lit (.int 2)))], [some (.expr (.lit (.int 3)))]] rfl

end Evalexpr.Spec.C05

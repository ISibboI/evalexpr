/-
C06 — Literals denote exactly their value.
String literals: `C06_string` (any text, `\` and `"` escaped, round-trips exactly), embedded anywhere
(`C06_string_embedded`, from the C07 round trip), bad escapes and missing quotes are errors.
Numbers and words, against the literal grammar of Spec/Literals.lean: `C06_dec`, `C06_hex` (exact
integers within the signed 64-bit range), `C06_float` / `C06_float_signed` (positional and scientific
notation, with or without a signed exponent: the double `F64.parse` assigns, which
`C06_float_roundRat*` identify as the correctly rounded value of the exact decimal rational),
`C06_bool`, and `C06_word` / `C06_identifier` (every other word is an identifier).
Proofs: Proofs/LitParts, LitFloatParse, Literals, and the Lex* files.
-/
import EvalexprVerif.Proofs.Literals
import EvalexprVerif.Proofs.AgreeToken
import EvalexprVerif.Proofs.Nearest
import EvalexprVerif.Proofs.LexExt
import EvalexprVerif.Proofs.AgreeFnInterface

namespace Evalexpr.Spec.C06
open Evalexpr Evalexpr.Spec

theorem C06_string (t : Str) : tokenize (quote t) = .ok [.string t] := Evalexpr.Spec.C06_string t

/-- **C06 about the code as translated on this run**: `Gen.tokenize` is the body of `tokenize` (src/token/mod.rs) rendered
by `translate_fn.py`, calling the rendered `str_to_partial_tokens` (with `parse_string_literal`, `parse_escape_sequence`,
`try_skip_comment`) and `partial_tokens_to_tokens`; its loops carry fuel, and any fuel above the length of the input suffices
(`fn_tokenize_agree`). A quoted text lexes to exactly that text. -/
theorem C06_string_generated (t : Str) (fuel : Nat) (h : (quote t).length < fuel) :
    Gen.tokenize fuel (quote t) = .ok [.string t] := by
  rw [AgreeFn.fn_tokenize_agree _ _ h]; exact C06_string t

/-- a string literal between any printable tokens, with any admissible gaps, is still exactly its text -/
theorem C06_string_embedded (pre post : List (Gap × PTok)) (g0 g : Gap) (t : Str)
    (hp : ∀ p ∈ pre ++ (g0, ⟨.string t, quote t⟩) :: post, p.2.Printable)
    (ha : Admissible (pre ++ (g0, ⟨.string t, quote t⟩) :: post) g) :
    tokenize (renderFrom (pre ++ (g0, ⟨.string t, quote t⟩) :: post) g)
      = .ok (pre.map (·.2.tok) ++ .string t :: post.map (·.2.tok)) := by
  rw [Evalexpr.Spec.C07_roundtrip _ g hp ha, List.map_append]; rfl

/-- any literal in any spelling (decimal, hex, positional or scientific float with or without a signed
exponent, boolean, string) between any other tokens, separated only where the lexer needs it, is still
exactly its token (instance of `C07_roundtrip_ext`) -/
theorem C06_literal_embedded (pre post : List (Gap × PTok)) (g0 g : Gap) (lit : PTok)
    (hp : ∀ p ∈ pre ++ (g0, lit) :: post, p.2.PrintableX)
    (ha : AdmissibleX (pre ++ (g0, lit) :: post) g) :
    tokenize (renderFrom (pre ++ (g0, lit) :: post) g)
      = .ok (pre.map (·.2.tok) ++ lit.tok :: post.map (·.2.tok)) := by
  rw [Evalexpr.Spec.C07_roundtrip_ext _ g hp ha, List.map_append]; rfl

/-- the three embedded examples of the property text -/
theorem C06_hex_embedded : tokenize cl!"0x1e-3" = .ok [.int 30, .minus, .int 3] :=
  Evalexpr.Spec.C06_hex_embedded
theorem C06_signed_embedded : ∃ f g, F64.parse cl!"5e-3" = some f ∧ F64.parse cl!"2e-3" = some g ∧
    tokenize cl!"5e-3-2e-3" = .ok [.float f, .minus, .float g] := Evalexpr.Spec.C06_signed_embedded
theorem C06_signed_after_ident : ∃ f, F64.parse cl!"1e+2" = some f ∧
    tokenize cl!"a-1e+2" = .ok [.identifier cl!"a", .minus, .float f] := Evalexpr.Spec.C06_signed_after_ident

theorem C06_bad_escape (u v : Str) (c : Char) (hc : c ≠ '"' ∧ c ≠ '\\') :
    tokenize ('"' :: escape u ++ '\\' :: c :: v) = .error (.illegalEscapeSequence ['\\', c]) :=
  Evalexpr.Spec.C06_bad_escape u v c hc
theorem C06_unterminated (u : Str) : tokenize ('"' :: escape u) = .error .unmatchedDoubleQuote :=
  Evalexpr.Spec.C06_unterminated u

theorem C06_dec (w : Str) (h : isDecLit w = true) (hv : decValue w < 2 ^ 63) :
    lexWord w = some (.int (Int64.ofNat (decValue w))) ∧ (Int64.ofNat (decValue w)).toInt = decValue w :=
  Evalexpr.Spec.C06_dec w h hv
theorem C06_hex (ds : Str) (h : isHexLit ('0' :: 'x' :: ds) = true) (hv : hexValue ds < 2 ^ 63) :
    lexWord ('0' :: 'x' :: ds) = some (.int (Int64.ofNat (hexValue ds))) ∧
      (Int64.ofNat (hexValue ds)).toInt = hexValue ds := Evalexpr.Spec.C06_hex ds h hv
theorem C06_bool : lexWord cl!"true" = some (.boolean true) ∧ lexWord cl!"false" = some (.boolean false) :=
  Evalexpr.Spec.C06_bool
theorem C06_float (w : Str) (h : isFloatLit w = true)
    (hnot : ¬ (isDecLit w = true ∧ decValue w < 2 ^ 63)) :
    ∃ f, F64.parse w = some f ∧ lexWord w = some (.float f) := Evalexpr.Spec.C06_float w h hnot
theorem C06_float_signed (m ex : Str) (hm : isMantissa m = true) (hex : isDigits ex = true)
    (e s : Char) (he : e = 'e' ∨ e = 'E') (hs : s = '+' ∨ s = '-') :
    ∃ f, F64.parse (m ++ e :: s :: ex) = some f ∧ tokenize (m ++ e :: s :: ex) = .ok [.float f] :=
  Evalexpr.Spec.C06_float_signed m ex hm hex e s he hs
/-- the double is the correct rounding (`F64.roundRat`: round to nearest, ties to even, exact over ℕ) of
the literal's exact rational value, outside the ±400-decade overflow/underflow guard band -/
theorem C06_float_roundRat (m ex : Str) (hm : isMantissa m = true) (hex : isDigits ex = true) (e : Char)
    (he : e = 'e' ∨ e = 'E') (hg : inGuardBand m false ex) :
    F64.parseBits (m ++ e :: ex) =
      some (F64.roundRat (floatLitValue m false ex).1 (floatLitValue m false ex).2) :=
  Evalexpr.Spec.C06_float_roundRat m ex hm hex e he hg
/-- **C06 (nearest double)**: the bits a float literal `m e x` denotes are a finite double closest to the
literal's exact decimal value n/d (`floatLitValue`), compared exactly: no finite non-negative double
is strictly closer; and on a tie the significand is even (`roundRat_ties_even`), and the result is
+infinity exactly at or beyond the overflow threshold (`roundRat_overflow`). -/
theorem C06_nearest (m ex : Str) (hm : isMantissa m = true) (hex : isDigits ex = true) (e : Char)
    (he : e = 'e' ∨ e = 'E') (hg : inGuardBand m false ex) (hd : 0 < (floatLitValue m false ex).2)
    (hfin : isFinitePos (F64.roundRat (floatLitValue m false ex).1 (floatLitValue m false ex).2) = true)
    (y : UInt64) (hy : isFinitePos y = true) :
    ∃ bits, F64.parseBits (m ++ e :: ex) = some bits ∧
      scaledError (floatLitValue m false ex).1 (floatLitValue m false ex).2 bits ≤
        scaledError (floatLitValue m false ex).1 (floatLitValue m false ex).2 y := by
  refine ⟨_, C06_float_roundRat m ex hm hex e he hg, ?_⟩
  by_cases hn : (floatLitValue m false ex).1 = 0
  · rw [hn, roundRat_zero]
    rw [scaledError, show scaledValue 0 = 0 from rfl]; simp
  · exact roundRat_nearest _ _ (Nat.pos_of_ne_zero hn) hd hfin y hy
theorem C06_ties_even (n d : Nat) (hn : 0 < n) (hd : 0 < d)
    (hfin : isFinitePos (F64.roundRat n d) = true) (y : UInt64) (hy : isFinitePos y = true)
    (hne : y ≠ F64.roundRat n d) (htie : scaledError n d y = scaledError n d (F64.roundRat n d)) :
    fracField (F64.roundRat n d) % 2 = 0 := roundRat_ties_even n d hn hd hfin y hy hne htie
theorem C06_overflow (n d : Nat) (hn : 0 < n) (hd : 0 < d) :
    (F64.roundRat n d = 0x7ff0000000000000 ↔ overflows n d = true) ∧
    (overflows n d = false → isFinitePos (F64.roundRat n d) = true) := roundRat_overflow n d hn hd

theorem C06_word (w : Str) (hw : isWord w = true) (h1 : isDecLit w = false) (h2 : isHexLit w = false)
    (h3 : isFloatLit w = false) (h4 : w ≠ cl!"true") (h5 : w ≠ cl!"false") : lexWord w = none :=
  Evalexpr.Spec.C06_word w hw h1 h2 h3 h4 h5
theorem C06_identifier (w : Str) (hw : isWord w = true) (h1 : isDecLit w = false) (h2 : isHexLit w = false)
    (h3 : isFloatLit w = false) (h4 : w ≠ cl!"true") (h5 : w ≠ cl!"false") :
    tokenize w = .ok [.identifier w] := Evalexpr.Spec.C06_identifier w hw h1 h2 h3 h4 h5

/-- `nan`, `inf`, `infinity` are identifiers (they were float literals before the fix b9215f4 of /repo) -/
example : tokenize cl!"nan" = .ok [.identifier cl!"nan"] :=
  C06_identifier _ (by decide) (by decide) (by decide) (by decide) (by decide) (by decide)
example : tokenize cl!"Infinity" = .ok [.identifier cl!"Infinity"] :=
  C06_identifier _ (by decide) (by decide) (by decide) (by decide) (by decide) (by decide)
/-- `1e-3` alone is one float token -/
example : ∃ f, tokenize cl!"1e-3" = .ok [.float f] := by
  obtain ⟨f, _, h⟩ := C06_float_signed cl!"1" cl!"3" (by decide) (by decide) 'e' '-' (Or.inl rfl) (Or.inr rfl)
  exact ⟨f, h⟩
/-- the grammar: positional, scientific, leading / trailing dot are float literals; `inf` is not -/
example : isFloatLit cl!"1.5e10" = true ∧ isFloatLit cl!".5" = true ∧ isFloatLit cl!"5." = true ∧
    isFloatLit cl!"inf" = false ∧ isHexLit cl!"0x1F" = true ∧ isDecLit cl!"007" = true := by decide
/-- `0x7fffffffffffffff` is the largest integer literal -/
example : lexWord cl!"0x7fffffffffffffff" = some (.int (Int64.ofNat (hexValue cl!"7fffffffffffffff"))) :=
  (C06_hex cl!"7fffffffffffffff" (by decide) (by decide)).1

end Evalexpr.Spec.C06

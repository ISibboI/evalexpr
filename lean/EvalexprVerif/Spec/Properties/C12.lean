/-
C12 — All evaluation entry points are views of one evaluator.
The 48 wrappers are re-extracted from the source on every run and proved equal to the table
generated from one rule (Spec/Tables.lean `levelRows`: each typed form matches on the untyped
evaluator of the same level and mode, projects exactly its variant, raises exactly its expected-type
error, passes errors through; the context-free forms delegate to the mutable form on a fresh
HashMapContext) — `entryPoints_agree`. The model's entry points are that rule (`C12_projection`,
`C12_precompile`, `C12_fresh`), and `C12_project_typed` states the projection outright.
-/
import EvalexprVerif.Proofs.ContextRefine
import EvalexprVerif.Proofs.AgreeEntry
import EvalexprVerif.Proofs.AgreeFnInterface

namespace Evalexpr.Spec.C12
open Evalexpr Evalexpr.Spec

theorem C12_projection (k : Kind) (m : Mode) (n : Node) (s : St) :
    runTree k m n s = (k.project (runTreeUntyped m n s).1, (runTreeUntyped m n s).2) :=
  Evalexpr.Spec.C12_projection k m n s
theorem C12_precompile (k : Kind) (m : Mode) (src : List Char) (s : St) :
    runString k m src s = match buildOperatorTree src with
      | .ok n => runTree k m n s
      | .error e => (.error e, s) := Evalexpr.Spec.C12_precompile k m src s
theorem C12_build_error (k : Kind) (m : Mode) (src : List Char) (s : St) (e : Err)
    (h : buildOperatorTree src = .error e) : runString k m src s = (.error e, s) :=
  Evalexpr.Spec.C12_build_error k m src s e h
theorem C12_project_error (k : Kind) (e : Err) : k.project (.error e) = .error e := rfl
theorem C12_project_typed (v : Value) :
    Kind.project .string (.ok v) = (match v with | .string s => .ok (.string s) | v => .error (.expectedString v)) ∧
    Kind.project .int (.ok v) = (match v with | .int i => .ok (.int i) | v => .error (.expectedInt v)) ∧
    Kind.project .float (.ok v) = (match v with | .float f => .ok (.float f) | v => .error (.expectedFloat v)) ∧
    Kind.project .number (.ok v) = (match v with | .int i => .ok (.float i.toFloat) | .float f => .ok (.float f) | v => .error (.expectedNumber v)) ∧
    Kind.project .boolean (.ok v) = (match v with | .boolean b => .ok (.boolean b) | v => .error (.expectedBoolean v)) ∧
    Kind.project .tuple (.ok v) = (match v with | .tuple t => .ok (.tuple t) | v => .error (.expectedTuple v)) ∧
    Kind.project .empty (.ok v) = (match v with | .empty => .ok .empty | v => .error (.expectedEmpty v)) :=
  Evalexpr.Spec.C12_project_typed v
theorem C12_fresh (k : Kind) (n : Node) (s : St) :
    runTree k .fresh n s = (k.project (n.evalMut St.fresh).1, s) := Evalexpr.Spec.C12_fresh k n s
/-- equal state, equal input ⇒ equal result: the entry points are functions (no hidden state; see also C15 purity) -/
theorem C12_function (k : Kind) (m : Mode) (src : List Char) (s₁ s₂ : St) (h : s₁ = s₂) :
    runString k m src s₁ = runString k m src s₂ := by rw [h]

/-- **C12 about the code as translated on this run**: the rendered typed wrappers of src/interface/mod.rs (here six of the
seven read-only ones; `eval_empty_with_context`, the mutable and the context-free ones have the same theorems in
`Proofs/AgreeFnInterface.lean`), embedded into `Value`, are the projections of the rendered untyped `eval_with_context` — payload if the variant matches, the matching
expected-type error otherwise, errors unchanged, `number` converting integers — and leave the same state -/
theorem C12_projection_generated (src : List Char) (s : St) :
    let u := Gen.eval_with_context src s
    Prod.map (Except.map Value.string) id (Gen.eval_string_with_context src s) = (Kind.project .string u.1, u.2) ∧
    Prod.map (Except.map Value.int) id (Gen.eval_int_with_context src s) = (Kind.project .int u.1, u.2) ∧
    Prod.map (Except.map Value.float) id (Gen.eval_float_with_context src s) = (Kind.project .float u.1, u.2) ∧
    Prod.map (Except.map Value.float) id (Gen.eval_number_with_context src s) = (Kind.project .number u.1, u.2) ∧
    Prod.map (Except.map Value.boolean) id (Gen.eval_boolean_with_context src s) = (Kind.project .boolean u.1, u.2) ∧
    Prod.map (Except.map Value.tuple) id (Gen.eval_tuple_with_context src s) = (Kind.project .tuple u.1, u.2) := by
  intro u
  simp only [u, AgreeFn.fn_eval_with_context_agree, AgreeFn.fn_eval_string_with_context_agree,
    AgreeFn.fn_eval_int_with_context_agree, AgreeFn.fn_eval_float_with_context_agree,
    AgreeFn.fn_eval_number_with_context_agree, AgreeFn.fn_eval_boolean_with_context_agree,
    AgreeFn.fn_eval_tuple_with_context_agree]
  exact ⟨AgreeFn.runString_project _ _ _ _, AgreeFn.runString_project _ _ _ _, AgreeFn.runString_project _ _ _ _,
    AgreeFn.runString_project _ _ _ _, AgreeFn.runString_project _ _ _ _, AgreeFn.runString_project _ _ _ _⟩

end Evalexpr.Spec.C12

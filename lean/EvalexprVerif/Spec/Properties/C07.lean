/-
C07 — Whitespace and comments never change meaning.

`C07_roundtrip`: ANY sequence of printable tokens (well-formed expression or not), written with ANY
admissible gap assignment — each gap a sequence of Unicode whitespace characters, `/* … */` and
`// …⏎` comments, non-empty where the neighbours would fuse — tokenizes to exactly those tokens.
Hence (`C07_invariance`, `C07_tree_invariance`) two admissible renderings of the same tokens build
equal trees or fail with the same error; an unterminated `/*` is an error (`C07_unterminated`);
comment markers inside string literals are plain text (`C07_in_string`).
Proofs: Proofs/LexChars, LexPhase1 (characters → partial tokens), LexPhase2 (partial tokens → tokens),
LexRoundtrip, over the literal grammar of Proofs/LitParts, LitFloatParse, Literals.
-/
import EvalexprVerif.Proofs.LexRoundtrip
import EvalexprVerif.Proofs.LexExt
import EvalexprVerif.Proofs.AgreeToken
import EvalexprVerif.Proofs.AgreeFnInterface

namespace Evalexpr.Spec.C07
open Evalexpr Evalexpr.Spec

/-- **C07 (main)** -/
theorem C07_roundtrip (ps : List (Gap × PTok)) (g : Gap)
    (hp : ∀ p ∈ ps, p.2.Printable) (ha : Admissible ps g) :
    tokenize (renderFrom ps g) = .ok (ps.map (·.2.tok)) :=
  Evalexpr.Spec.C07_roundtrip ps g hp ha

/-- **C07 (extended)**: the same with literals in EVERY spelling the language has — floats in scientific
notation with a signed exponent (`5e-3`, three partial tokens for the lexer) — and with the weakest
separation the lexer needs: a sign directly after `<digits>e` needs a gap only if that word is an
identifier (`0x1e-3` is `30 - 3`). Subsumes `C07_roundtrip` (`C07_ext_subsumes`). -/
theorem C07_roundtrip_ext (ps : List (Gap × PTok)) (g : Gap)
    (hp : ∀ p ∈ ps, p.2.PrintableX) (ha : AdmissibleX ps g) :
    tokenize (renderFrom ps g) = .ok (ps.map (·.2.tok)) :=
  Evalexpr.Spec.C07_roundtrip_ext ps g hp ha

theorem C07_ext_subsumes (ps : List (Gap × PTok)) (g : Gap)
    (hp : ∀ p ∈ ps, p.2.Printable) (ha : Admissible ps g) :
    (∀ p ∈ ps, p.2.PrintableX) ∧ AdmissibleX ps g :=
  ⟨fun p h => .inl (hp p h), admissibleX_of_admissible ps g ha⟩

/-- **C07 about the code as translated on this run**: the rendered lexer (`Gen.tokenize`, fuel = length + 1 as the rendered
interface functions pass it) returns exactly the tokens of every admissible rendering, and the rendered
`build_operator_tree` — rendered lexer, then rendered tree builder — returns the tree of those tokens: the whole path from
source text to operator tree is code translated on this run. -/
theorem C07_roundtrip_generated (ps : List (Gap × PTok)) (g : Gap)
    (hp : ∀ p ∈ ps, p.2.PrintableX) (ha : AdmissibleX ps g) :
    Gen.tokenize (Rs.fuel_chars (renderFrom ps g)) (renderFrom ps g) = .ok (ps.map (·.2.tok)) := by
  rw [AgreeFn.fn_tokenize_fuel_chars]; exact C07_roundtrip_ext ps g hp ha
theorem C07_tree_generated (ps : List (Gap × PTok)) (g : Gap)
    (hp : ∀ p ∈ ps, p.2.PrintableX) (ha : AdmissibleX ps g) :
    Gen.build_operator_tree (renderFrom ps g) = tokensToOperatorTree (ps.map (·.2.tok)) := by
  rw [AgreeFn.fn_build_operator_tree_agree]; exact buildOperatorTree_render ps g hp ha

/-- `<digits>e`, a sign and a token that is not a word are three tokens, however tightly written -/
theorem C07_sign_before_string : tokenize cl!"1e+\"3\"" = .ok [.identifier cl!"1e", .plus, .string cl!"3"] :=
  Evalexpr.Spec.C07_sign_before_string
theorem C07_sign_before_paren : tokenize cl!"2E-(x)" =
    .ok [.identifier cl!"2E", .minus, .lBrace, .identifier cl!"x", .rBrace] := Evalexpr.Spec.C07_sign_before_paren

/-- two admissible gap assignments for the same tokens give the same token sequence -/
theorem C07_invariance (toks : List PTok) (gs₁ gs₂ : List Gap) (g₁ g₂ : Gap)
    (h₁ : gs₁.length = toks.length) (h₂ : gs₂.length = toks.length)
    (hp : ∀ p ∈ toks, p.Printable)
    (ha₁ : Admissible (gs₁.zip toks) g₁) (ha₂ : Admissible (gs₂.zip toks) g₂) :
    tokenize (renderFrom (gs₁.zip toks) g₁) = tokenize (renderFrom (gs₂.zip toks) g₂) :=
  Evalexpr.Spec.C07_invariance toks gs₁ gs₂ g₁ g₂ h₁ h₂ hp ha₁ ha₂

/-- … hence equal operator trees, or the same error -/
theorem C07_tree_invariance (toks : List PTok) (gs₁ gs₂ : List Gap) (g₁ g₂ : Gap)
    (h₁ : gs₁.length = toks.length) (h₂ : gs₂.length = toks.length)
    (hp : ∀ p ∈ toks, p.Printable)
    (ha₁ : Admissible (gs₁.zip toks) g₁) (ha₂ : Admissible (gs₂.zip toks) g₂) :
    buildOperatorTree (renderFrom (gs₁.zip toks) g₁) = buildOperatorTree (renderFrom (gs₂.zip toks) g₂) := by
  unfold buildOperatorTree
  rw [C07_invariance toks gs₁ gs₂ g₁ g₂ h₁ h₂ hp ha₁ ha₂]

/-- the tree of a rendering is the tree of its tokens -/
theorem C07_tree_of_tokens (ps : List (Gap × PTok)) (g : Gap)
    (hp : ∀ p ∈ ps, p.2.Printable) (ha : Admissible ps g) :
    buildOperatorTree (renderFrom ps g) = tokensToOperatorTree (ps.map (·.2.tok)) :=
  buildOperatorTree_render ps g (C07_ext_subsumes ps g hp ha).1 (C07_ext_subsumes ps g hp ha).2

/-- an unterminated `/*` after a well-formed prefix is an error -/
theorem C07_unterminated (a : List (Gap × PTok)) (g : Gap) (b : Str)
    (hp : ∀ p ∈ a, p.2.Printable) (ha : Admissible a g) (hb : hasSubstr ['*', '/'] b = false)
    (hlast : ∀ p, a.getLast? = some p → isSlash p.2.tok = false ∨ g ≠ []) :
    tokenize (renderFrom a g ++ '/' :: '*' :: b) = .error unmatchedInlineComment :=
  Evalexpr.Spec.C07_unterminated a g b hp ha hb hlast

/-- comment markers inside a string literal are plain text (an instance of C06_string) -/
theorem C07_in_string (t : Str) : tokenize (quote t) = .ok [.string t] := Evalexpr.Spec.C06_string t

/-! ### non-vacuity: a concrete admissible rendering with every kind of separator -/

/-- `a/**/+ //x⏎ 1` : identifier, block comment, plus, space, line comment, space, int -/
example : tokenize (renderFrom
      [([], ⟨.identifier ['a'], ['a']⟩), ([.block []], ⟨.plus, ['+']⟩),
       ([.ws ' ', .line ['x'], .ws (Char.ofNat 0x3000)], ⟨.int 1, ['1']⟩)] [.ws '\n'])
    = .ok [.identifier ['a'], .plus, .int 1] := by
  apply C07_roundtrip
  · intro p hp
    simp only [List.mem_cons, List.not_mem_nil, or_false] at hp
    rcases hp with rfl | rfl | rfl
    · exact ⟨rfl, by decide, by decide⟩
    · show fixedText Token.plus = some ['+']; rfl
    · exact ⟨by decide, by rfl⟩
  · simp only [Admissible]
    refine ⟨by simp, ⟨?_, ?_⟩, ?_, ⟨by decide, ⟨?_, ?_⟩, ?_, ⟨by decide, trivial, ?_, by decide⟩⟩⟩
    all_goals first | decide | simp [fuses, isWordTok, absorbsEq, startsWithEq, isSlash, isSign, looksLikeMantissaE]

/-- the comment separates: `a/**/b` is two identifiers (before the fix 147933c of /repo it lexed as the identifier `ab`) -/
example : tokenize cl!"a/**/b" = .ok [.identifier ['a'], .identifier ['b']] := by
  have := C07_roundtrip [([], ⟨.identifier ['a'], ['a']⟩), ([.block []], ⟨.identifier ['b'], ['b']⟩)] []
    (by
      intro p hp
      simp only [List.mem_cons, List.not_mem_nil, or_false] at hp
      rcases hp with rfl | rfl
      · exact ⟨rfl, by decide, by decide⟩
      · exact ⟨rfl, by decide, by decide⟩)
    (by
      simp only [Admissible]
      refine ⟨by simp, ⟨?_, ?_⟩, ?_, ⟨by decide, trivial, ?_, by decide⟩⟩
      all_goals first | decide | simp [fuses, isWordTok, absorbsEq, startsWithEq, isSlash, isSign, looksLikeMantissaE])
  exact this

end Evalexpr.Spec.C07

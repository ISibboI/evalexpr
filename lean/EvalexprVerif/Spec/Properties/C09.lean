/-
C09 — Function resolution: call forms, shadowing and the builtin switch.
The full statement "a function defined in the context always takes precedence" is FALSE of the code
(known finding K2, witness `C09_K2_witness`): a context function that itself answers
FunctionIdentifierNotFound is replaced by the builtin. Proved: resolution whenever the context
function answers anything else, the fallback and the switch for all three context kinds, separate
namespaces, and the call forms (instances of C02_parse / C05_tree). Proofs: Proofs/ContextRefine.
-/
import EvalexprVerif.Proofs.ContextRefine
import EvalexprVerif.Proofs.ParseSeq
import EvalexprVerif.Proofs.AgreeBuiltin
import EvalexprVerif.Proofs.AgreeContext
import EvalexprVerif.Proofs.AgreeToken
import EvalexprVerif.Proofs.AgreeFnOperator

namespace Evalexpr.Spec.C09
open Evalexpr Evalexpr.Spec

/-- the property's resolution clause at full strength — false at K2 -/
def C09_resolution_full : Prop :=
  ∀ (id : Str) (arg : Value) (s : St) (f : UserFn), s.ctx.userFn id = some f →
    (callFunction id arg s).1 = f arg

theorem C09_K2_witness :
    let f : UserFn := fun _ => .error (.functionIdentifierNotFound ['z', 'z'])
    let s : St := ⟨.hashMap { funs := [(cl!"max", f)] }, []⟩
    (callFunction cl!"max" (.tuple [.int 1, .int 3]) s).1 = .ok (.int 3) := Evalexpr.Spec.C09_K2_witness

theorem C09_resolution_full_false : ¬ C09_resolution_full :=
  fun h => nomatch C09_K2_witness.symm.trans (h _ _ _ _ rfl)

/-- **C09 (partial)**: everything but the K2 corner -/
theorem C09_resolution_partial (id : Str) (arg : Value) (s : St) (f : UserFn)
    (hf : s.ctx.userFn id = some f) (hne : ∀ x, f arg ≠ .error (.functionIdentifierNotFound x)) :
    callFunction id arg s = (f arg, { s with log := s.log ++ [(id, arg)] }) :=
  Evalexpr.Spec.C09_resolution_partial id arg s f hf hne
theorem C09_fallback (id : Str) (arg : Value) (s : St) (hf : s.ctx.userFn id = none) :
    callFunction id arg s =
      (if s.ctx.builtinsDisabled then .error (.functionIdentifierNotFound id)
       else match builtinFunction id with
         | some b => b.call arg
         | none => .error (.functionIdentifierNotFound id), s) := Evalexpr.Spec.C09_fallback id arg s hf
theorem C09_all_builtins_unknown (p : Str × Builtin) (hp : p ∈ builtinTable) (arg : Value) (s : St)
    (hf : s.ctx.userFn p.1 = none) (hd : s.ctx.builtinsDisabled = true) :
    (Operator.eval (.fn p.1) [arg] s).1 = .error (.functionIdentifierNotFound p.1) :=
  Evalexpr.Spec.C09_all_builtins_unknown p hp arg s hf hd
theorem C09_builtin_lookup (p : Str × Builtin) (hp : p ∈ builtinTable) : builtinFunction p.1 = some p.2 :=
  Evalexpr.Spec.C09_builtin_lookup p hp
theorem C09_policy_empty : Ctx.builtinsDisabled .empty = true ∧ (∀ id, Ctx.userFn .empty id = none) ∧
    Ctx.setBuiltinsDisabled .empty false = .error .builtinFunctionsCannotBeEnabled :=
  ⟨rfl, fun _ => rfl, rfl⟩
theorem C09_policy_emptyWithBuiltins : Ctx.builtinsDisabled .emptyWithBuiltins = false ∧
    (∀ id, Ctx.userFn .emptyWithBuiltins id = none) ∧
    Ctx.setBuiltinsDisabled .emptyWithBuiltins true = .error .builtinFunctionsCannotBeDisabled :=
  ⟨rfl, fun _ => rfl, rfl⟩
theorem C09_switch_untouched (h : HashMapCtx) :
    h.clearVariables.noBuiltins = h.noBuiltins ∧ h.clearFunctions.noBuiltins = h.noBuiltins ∧
      h.clear.noBuiltins = h.noBuiltins :=
  ⟨rfl, rfl, rfl⟩
theorem C09_namespaces (h : HashMapCtx) (fs : List (Str × UserFn)) (vs : List (Str × Value)) (id : Str) :
    Ctx.getValue (.hashMap { h with funs := fs }) id = Ctx.getValue (.hashMap h) id ∧
    Ctx.userFn (.hashMap { h with vars := vs }) id = Ctx.userFn (.hashMap h) id :=
  Evalexpr.Spec.C09_namespaces h fs vs id

/-! ### call forms (instances of the parse theorems) -/
/-- `f x` is `f(x)`; `f g x` is `f(g(x))` -/
theorem C09_form_juxtaposition (f g x : Str) :
    tokensToOperatorTree [.identifier f, .identifier g, .identifier x] =
      .ok ⟨.rootNode, [⟨.fn f, [⟨.fn g, [⟨.varRead x, []⟩]⟩]⟩]⟩ :=
  Evalexpr.Spec.C02_parse (.call f (.call g (.var x)))
/-- `f(a, b)` passes the 2-tuple; `f()` passes the empty value -/
theorem C09_form_tuple (a b : Str) :
    tokensToOperatorTree [.lBrace, .identifier a, .comma, .identifier b, .rBrace] =
      .ok ⟨.rootNode, [⟨.rootNode, [⟨.tuple, [⟨.rootNode, [⟨.varRead a, []⟩]⟩, ⟨.rootNode, [⟨.varRead b, []⟩]⟩]⟩]⟩]⟩ :=
  Evalexpr.Spec.C05_tree [[some (.group [[some (.expr (.var a)), some (.expr (.var b))]])]] rfl

/-! ### about the code as translated on this run
`Gen.Operator.eval (.fn id) [arg]` is the `FunctionIdentifier` arm of `Operator::eval` (src/operator/mod.rs) rendered by
`translate_fn.py`, calling the rendered `builtin_function`. -/

/-- a function the context defines takes precedence (unless it answers with the unknown-function error itself: K2) -/
theorem C09_resolution_partial_generated (id : Str) (arg : Value) (s : St) (f : UserFn)
    (hf : s.ctx.userFn id = some f) (hne : ∀ x, f arg ≠ .error (.functionIdentifierNotFound x)) :
    Gen.Operator.eval (.fn id) [arg] s = (f arg, { s with log := s.log ++ [(id, arg)] }) := by
  rw [AgreeFn.fn_Operator_eval_agree]
  show callFunction id arg s = _
  exact C09_resolution_partial id arg s f hf hne

/-- builtins are consulted only if the context defines no such function and has not disabled them -/
theorem C09_fallback_generated (id : Str) (arg : Value) (s : St) (hf : s.ctx.userFn id = none) :
    Gen.Operator.eval (.fn id) [arg] s =
      (if s.ctx.builtinsDisabled then .error (.functionIdentifierNotFound id)
       else match builtinFunction id with
         | some b => b.call arg
         | none => .error (.functionIdentifierNotFound id), s) := by
  rw [AgreeFn.fn_Operator_eval_agree]
  show callFunction id arg s = _
  exact C09_fallback id arg s hf

end Evalexpr.Spec.C09

/-
C02 — Precedence and associativity alone determine the operator tree.

Main theorem `C02_parse`: for EVERY expression AST `e` (any depth) over the 14 binary, 2 prefix and
9 assignment operators, function application, literals, variables and redundant parentheses, the
tree builder applied to the canonical rendering `render e` (exactly the parentheses the documented
table requires, plus the redundant ones of the AST) returns exactly `toTree e` under the top-level
root node; `C02_ast`: ignoring parenthesis wrapper nodes, that is the AST itself.
The proof (Proofs/ParseSpine, ParseTops, ParseExpr) is one induction over a grammar of operands written with
enough parentheses (`Opd`), generalised over the right spine of open operator frames; `render e` is in that grammar.
-/
import EvalexprVerif.Proofs.ParseExpr
import EvalexprVerif.Proofs.AgreeOperator
import EvalexprVerif.Proofs.AgreeToken
import EvalexprVerif.Proofs.LexRoundtrip
import EvalexprVerif.Proofs.LexExt
import EvalexprVerif.Proofs.AgreeFnTokensToTree
import EvalexprVerif.Proofs.AgreeFnInterface

namespace Evalexpr.Spec.C02
open Evalexpr Evalexpr.Spec

/-- the documented precedence table is the one the tree builder uses -/
theorem C02_tables_binary (op : BinOp) :
    op.toOperator.precedence = op.docPrec ∧ op.toOperator.isLeftToRight = true ∧
      op.toOperator.maxArgumentAmount = some 2 := by
  cases op <;> exact ⟨rfl, rfl, rfl⟩

theorem C02_tables_unary :
    Operator.neg.precedence = unaryPrec ∧ Operator.not.precedence = unaryPrec ∧
      Operator.neg.maxArgumentAmount = some 1 ∧ Operator.not.maxArgumentAmount = some 1 :=
  ⟨rfl, rfl, rfl, rfl⟩

/-- assignments: precedence 50; only `=` groups right-to-left -/
theorem C02_tables_assign (op : AssignOp) :
    op.toOperator.precedence = assignPrec ∧ op.toOperator.maxArgumentAmount = some 2 ∧
      (op.toOperator.isLeftToRight = false ↔ op = .assign) := by
  cases op <;> exact ⟨rfl, rfl, by decide⟩

/-- function application binds tighter than every operator, weaker than an operand -/
theorem C02_tables_call (f : Str) (op : BinOp) :
    op.toOperator.precedence < (Operator.fn f).precedence ∧ unaryPrec < (Operator.fn f).precedence ∧
      (Operator.fn f).precedence < (Operator.varRead f).precedence := by
  -- the precedences of `.fn f`, `.varRead f` do not look at `f`
  show _ < OpKind.fn.precedence ∧ _ < OpKind.fn.precedence ∧ OpKind.fn.precedence < OpKind.varRead.precedence
  cases op <;> decide

/-- function application binds tighter than every assignment operator too: in `f x op y` the
assignment's left operand is the whole application (the AST of `C02_parse` has bare identifiers
left of assignments; this is the remaining documented case, a finite table) -/
theorem C02_call_left_of_assign (op : AssignOp) :
    tokensToOperatorTree (callAssignTokens op) = .ok (callAssignTree op) := by
  cases op <;> rfl

theorem C02_call_left_of_assign_chain :
    tokensToOperatorTree chainCallAssignTokens = .ok chainCallAssignTree := rfl

/-- **C02 (main)**: the canonical rendering of any AST builds exactly the promised tree. -/
theorem C02_parse (e : Expr) :
    tokensToOperatorTree (render e) = .ok ⟨.rootNode, [toTree e]⟩ :=
  Evalexpr.Spec.C02_parse e

/-- **C02 about the code as translated on this run**: `Gen.tokens_to_operator_tree` is the body of
`tokens_to_operator_tree` (src/tree/mod.rs) rendered by `translate_fn.py` — its `while let` loop over the peekable token
iterator, the calls of the rendered `insert_back_prioritized` / `collapse_*`, the rendered operator tables — with loops as
partial fixpoints (`none` = divergence). On the rendering of EVERY expression AST it terminates and returns the reference tree. -/
theorem C02_parse_generated (e : Expr) :
    Gen.tokens_to_operator_tree (render e) = some (.ok ⟨.rootNode, [toTree e]⟩) := by
  rw [AgreeFn.fn_tokens_to_operator_tree_agree, C02_parse e]

/-- an operator node keeps its operator; only `RootNode`s over one child are dropped -/
theorem stripRoots_op {op : Operator} (cs : List Node) (h : op ≠ .rootNode) :
    stripRoots ⟨op, cs⟩ = ⟨op, stripRootsList cs⟩ := by
  rw [stripRoots]; exact fun _ h' _ => h h'

theorem stripRoots_wrapTree (b : Bool) (n : Node) : stripRoots (wrapTree b n) = stripRoots n := by
  cases b
  · rfl
  · simp [wrapTree, stripRoots, stripRootsList]

/-- parenthesis wrapper nodes ignored, `toTree e` is the AST -/
theorem stripRoots_toTree (e : Expr) : stripRoots (toTree e) = toAstTree e := by
  induction e with
  | lit l => rfl
  | var x => rfl
  | call f a ih | neg a ih | not a ih =>
    exact (stripRoots_op _ (by nofun)).trans (by simp [stripRootsList, stripRoots_wrapTree, ih, toAstTree])
  | bin op l r ihl ihr =>
    exact (stripRoots_op _ (by cases op <;> nofun)).trans
      (by simp [stripRootsList, stripRoots_wrapTree, ihl, ihr, toAstTree])
  | assign op x rhs ih =>
    exact (stripRoots_op _ (by cases op <;> nofun)).trans
      (by simp [stripRootsList, stripRoots_wrapTree, ih, toAstTree, stripRoots_op])
  | paren e ih => simpa [toTree, toAstTree, stripRoots, stripRootsList] using ih

/-- **C02 (structural equality to the AST, parenthesis wrapper nodes ignored)**: required
parentheses are never ignored, redundant ones never change the tree. -/
theorem C02_ast (e : Expr) :
    (tokensToOperatorTree (render e)).map stripRoots = .ok (toAstTree e) := by
  rw [C02_parse]
  show Except.ok (stripRoots ⟨.rootNode, [toTree e]⟩) = _
  have := stripRoots_toTree (.paren e)
  simp only [toTree, toAstTree] at this
  rw [this]

/-- **C02 (string level)**: ANY spelling of the tokens of the canonical rendering (identifiers and
literals written as words that lex to them, strings quoted) with ANY admissible assignment of
whitespace and comments precompiles to the promised tree (C07 round trip + `C02_parse`). -/
theorem C02_string (e : Expr) (ps : List (Gap × PTok)) (g : Gap)
    (hts : ps.map (·.2.tok) = render e) (hp : ∀ p ∈ ps, p.2.Printable) (ha : Admissible ps g) :
    buildOperatorTree (renderFrom ps g) = .ok ⟨.rootNode, [toTree e]⟩ := by
  rw [buildOperatorTree_render ps g (fun p h => .inl (hp p h)) (admissibleX_of_admissible ps g ha), hts]
  exact C02_parse e

/-- … and in every literal spelling (hex, signed exponents) with the weakest separation (`0x1e-3`,
`5e-3-2e-3`): the extended round trip + `C02_parse` -/
theorem C02_string_ext (e : Expr) (ps : List (Gap × PTok)) (g : Gap)
    (hts : ps.map (·.2.tok) = render e) (hp : ∀ p ∈ ps, p.2.PrintableX) (ha : AdmissibleX ps g) :
    buildOperatorTree (renderFrom ps g) = .ok ⟨.rootNode, [toTree e]⟩ := by
  rw [buildOperatorTree_render ps g hp ha, hts]
  exact C02_parse e

/-- **C02 from source text to tree, about the code as translated on this run**: the rendered `build_operator_tree`
(rendered lexer + rendered tree builder) maps every admissible spelling of the rendering of every expression AST to the
reference tree -/
theorem C02_string_generated (e : Expr) (ps : List (Gap × PTok)) (g : Gap)
    (hts : ps.map (·.2.tok) = render e) (hp : ∀ p ∈ ps, p.2.PrintableX) (ha : AdmissibleX ps g) :
    Gen.build_operator_tree (renderFrom ps g) = .ok ⟨.rootNode, [toTree e]⟩ := by
  rw [AgreeFn.fn_build_operator_tree_agree]; exact C02_string_ext e ps g hts hp ha

/-- **C02 (everyday spelling)**: also with a prefix operator written WITHOUT parentheses as the right
operand of `^` (`2 ^ -3`, `a ^ --b`, `a ^ -f x`) — everywhere except in the shape the property
excludes (`x ^ -y ^ z`) — the builder returns the promised tree (Spec/AstLoose.lean). -/
theorem C02_parse_loose (e : Expr) :
    tokensToOperatorTree (renderL e false) = .ok ⟨.rootNode, [toTreeL e false]⟩ :=
  Evalexpr.Spec.C02_parse_loose e

theorem C02_string_loose (e : Expr) (ps : List (Gap × PTok)) (g : Gap)
    (hts : ps.map (·.2.tok) = renderL e false) (hp : ∀ p ∈ ps, p.2.Printable) (ha : Admissible ps g) :
    buildOperatorTree (renderFrom ps g) = .ok ⟨.rootNode, [toTreeL e false]⟩ := by
  rw [buildOperatorTree_render ps g (fun p h => .inl (hp p h)) (admissibleX_of_admissible ps g ha), hts]
  exact C02_parse_loose e

/-- `2 ^ -3` and `a ^ --b` are written without parentheses; `a ^ (-b ^ c)` keeps them -/
example : renderL (.bin .exp (.lit (.int 2)) (.neg (.lit (.int 3)))) false = [.int 2, .hat, .minus, .int 3] := rfl
example : renderL (.bin .exp (.var ['a']) (.neg (.neg (.var ['b'])))) false =
    [.identifier ['a'], .hat, .minus, .minus, .identifier ['b']] := rfl
example : renderL (.bin .exp (.var ['a']) (.neg (.bin .exp (.var ['b']) (.var ['c'])))) false =
    [.identifier ['a'], .hat, .lBrace, .minus, .identifier ['b'], .hat, .identifier ['c'], .rBrace] := rfl

/-- redundant parentheses never change the tree's meaning -/
theorem C02_redundant_parens (e : Expr) : toAstTree (.paren e) = toAstTree e := rfl

section Examples
private def i (n : Nat) : Expr := .lit (.int (Int64.ofNat n))
private def v (c : Char) : Expr := .var [c]

/-- `1 + 2 * 3`: `*` binds tighter -/
example : tokensToOperatorTree [.int 1, .plus, .int 2, .star, .int 3] =
    .ok ⟨.rootNode, [⟨.add, [⟨.const (.int 1), []⟩, ⟨.mul, [⟨.const (.int 2), []⟩, ⟨.const (.int 3), []⟩]⟩]⟩]⟩ :=
  C02_parse (.bin .add (i 1) (.bin .mul (i 2) (i 3)))

/-- `1 - 2 - 3` groups left-to-right, `a = b = 1` right-to-left -/
example : render (.bin .sub (.bin .sub (i 1) (i 2)) (i 3)) = [.int 1, .minus, .int 2, .minus, .int 3] := rfl
example : render (.bin .sub (i 1) (.bin .sub (i 2) (i 3))) =
    [.int 1, .minus, .lBrace, .int 2, .minus, .int 3, .rBrace] := rfl
example : render (.assign .assign ['a'] (.assign .assign ['b'] (i 1))) =
    [.identifier ['a'], .assign, .identifier ['b'], .assign, .int 1] := rfl
/-- `-a ^ b` is `-(a ^ b)`; `(-a) ^ b` needs its parentheses -/
example : render (.neg (.bin .exp (v 'a') (v 'b'))) = [.minus, .identifier ['a'], .hat, .identifier ['b']] := rfl
example : render (.bin .exp (.neg (v 'a')) (v 'b')) =
    [.lBrace, .minus, .identifier ['a'], .rBrace, .hat, .identifier ['b']] := rfl
/-- `f g x` is `f(g(x))` -/
example : render (.call ['f'] (.call ['g'] (v 'x'))) = [.identifier ['f'], .identifier ['g'], .identifier ['x']] := rfl
end Examples

end Evalexpr.Spec.C02

/-
C13 — Malformed expressions are rejected, never given a meaning.
For EVERY token sequence: unbalanced parentheses are rejected when the tree is built
(`C13_unbalanced`) and balanced input is never reported as unbalanced (`C13_balanced_ok`); two
juxtaposed operands outside the function-application form are rejected (`C13_juxtaposed`); a prefix
or binary operator (other than `,` `;`) lacking an operand yields, if a tree is built at all, a tree
with an operator of the wrong arity (`C13_operand`, a potential argument over open operand slots),
which never evaluates successfully because evaluation is eager (`C13_deficient`). `C13_main` combines
them against the independent recogniser `Spec.illFormed`.
Proofs: Proofs/TreeInsert, TreeLevels (one step theorem on parenthesis levels, one build theorem parameterised by
the invariant), MalformedBalance, MalformedDefect, Malformed; Proofs/EvalOrder.
-/
import EvalexprVerif.Proofs.Malformed
import EvalexprVerif.Proofs.MalformedBalance
import EvalexprVerif.Proofs.EvalOrder
import EvalexprVerif.Proofs.AgreeOperator
import EvalexprVerif.Proofs.AgreeToken
import EvalexprVerif.Proofs.LexRoundtrip
import EvalexprVerif.Proofs.LexExt
import EvalexprVerif.Model.Interface
import EvalexprVerif.Proofs.AgreeFnTokensToTree

namespace Evalexpr.Spec.C13
open Evalexpr Evalexpr.Spec

theorem C13_juxtaposed (ts : List Token) (h : juxtaposedIn none ts = true) :
    ∃ e, tokensToOperatorTree ts = .error e := Evalexpr.Spec.C13_juxtaposed ts h
theorem C13_unbalanced (ts : List Token) (h : balanced ts = false) :
    ∃ e, tokensToOperatorTree ts = .error e := Evalexpr.Spec.C13_unbalanced ts h
theorem C13_balanced_ok (ts : List Token) (h : balanced ts = true) :
    tokensToOperatorTree ts ≠ .error .unmatchedLBrace ∧ tokensToOperatorTree ts ≠ .error .unmatchedRBrace :=
  Evalexpr.Spec.C13_balanced_ok ts h
theorem C13_operand (ts : List Token) (h : lacksOperandIn none ts = true) (t : Node)
    (ht : tokensToOperatorTree ts = .ok t) : deficient t = true := Evalexpr.Spec.C13_operand ts h t ht
theorem C13_deficient (t : Node) (h : deficient t = true) (s : St) :
    (∀ v, (t.evalMut s).1 ≠ .ok v) ∧ (∀ v, (t.evalRO s).1 ≠ .ok v) := Evalexpr.Spec.C13_deficient t h s

/-- build, then evaluate (mutable / read-only) -/
def evalTokensMut (ts : List Token) (s : St) : Res Value :=
  match tokensToOperatorTree ts with
  | .ok t => (t.evalMut s).1
  | .error e => .error e
def evalTokensRO (ts : List Token) (s : St) : Res Value :=
  match tokensToOperatorTree ts with
  | .ok t => (t.evalRO s).1
  | .error e => .error e

/-- whatever the recogniser flags builds, if anything, a deficient tree: unbalanced and juxtaposed input builds nothing -/
theorem illFormed_deficient (ts : List Token) (h : illFormed ts = true) (t : Node)
    (ht : tokensToOperatorTree ts = .ok t) : deficient t = true := by
  unfold illFormed at h
  simp only [Bool.or_eq_true, Bool.not_eq_true'] at h
  rcases h with (h | h) | h
  · obtain ⟨e, he⟩ := C13_unbalanced ts h; cases he.symm.trans ht
  · obtain ⟨e, he⟩ := C13_juxtaposed ts h; cases he.symm.trans ht
  · exact C13_operand ts h t ht

/-- **C13 (main)**: a token sequence the recogniser classifies as ill-formed never evaluates
successfully, in any context, through either evaluator -/
theorem C13_main (ts : List Token) (h : illFormed ts = true) (s : St) :
    (∀ v, evalTokensMut ts s ≠ .ok v) ∧ (∀ v, evalTokensRO ts s ≠ .ok v) := by
  unfold evalTokensMut evalTokensRO
  cases ht : tokensToOperatorTree ts with
  | error e => exact ⟨nofun, nofun⟩
  | ok t => exact C13_deficient t (illFormed_deficient ts h t ht) s

/-- **C13 about the code as translated on this run**: the rendered `tokens_to_operator_tree` terminates on EVERY token
sequence; it rejects unbalanced and juxtaposed input, never reports balanced input as unbalanced, and a tree it builds for
input that lacks an operand is deficient (and therefore never evaluates, `C13_deficient`) -/
theorem C13_generated (ts : List Token) :
    ∃ r, Gen.tokens_to_operator_tree ts = some r ∧
      (balanced ts = false → ∃ e, r = .error e) ∧
      (juxtaposedIn none ts = true → ∃ e, r = .error e) ∧
      (balanced ts = true → r ≠ .error .unmatchedLBrace ∧ r ≠ .error .unmatchedRBrace) ∧
      (lacksOperandIn none ts = true → ∀ t, r = .ok t → deficient t = true) := by
  refine ⟨tokensToOperatorTree ts, AgreeFn.fn_tokens_to_operator_tree_agree ts, ?_, ?_, ?_, ?_⟩
  · exact C13_unbalanced ts
  · exact C13_juxtaposed ts
  · exact C13_balanced_ok ts
  · intro h t ht; exact C13_operand ts h t ht

/-- a typed projection never turns a failure into a success -/
theorem project_ok_inv (k : Kind) (r : Res Value) (v : Value) (h : k.project r = .ok v) : ∃ w, r = .ok w := by
  cases r with
  | error e => cases h
  | ok w => exact ⟨w, rfl⟩

/-- **C13 at the level of source text, for EVERY entry point**: a printable token sequence the recogniser
classifies as ill-formed, written with ANY admissible gap assignment (whitespace of every class, comments,
literals in every spelling), evaluates successfully through none of the 24 string-level entry points
(every result type × context-free / read-only / mutable), in any context — `C07_roundtrip_ext` + `illFormed_deficient`. -/
theorem C13_string (ps : List (Gap × PTok)) (g : Gap)
    (hp : ∀ p ∈ ps, p.2.PrintableX) (ha : AdmissibleX ps g)
    (h : illFormed (ps.map (·.2.tok)) = true) (k : Kind) (m : Mode) (s : St) :
    ∀ v, (runString k m (renderFrom ps g) s).1 ≠ .ok v := by
  intro v hv
  rw [runString, buildOperatorTree_render ps g hp ha] at hv
  cases ht : tokensToOperatorTree (ps.map (·.2.tok)) with
  | error e => rw [ht] at hv; cases hv
  | ok t =>
    rw [ht] at hv
    obtain ⟨w, hw⟩ := project_ok_inv k _ v hv
    have hd := C13_deficient t (illFormed_deficient _ h t ht)
    cases m with
    | fresh => exact (hd St.fresh).1 w hw
    | ro => exact (hd s).2 w hw
    | mut_ => exact (hd s).1 w hw

/-- … and precompilation of unbalanced source text fails, however it is spaced -/
theorem C13_string_unbalanced (ps : List (Gap × PTok)) (g : Gap)
    (hp : ∀ p ∈ ps, p.2.PrintableX) (ha : AdmissibleX ps g)
    (h : balanced (ps.map (·.2.tok)) = false) : ∃ e, buildOperatorTree (renderFrom ps g) = .error e := by
  rw [buildOperatorTree_render ps g hp ha]
  exact C13_unbalanced _ h

/-! ### the recogniser is not vacuous: it flags the juxtaposed operands that evaluated before the fix 41ff914 of /repo (`+ 1 2`, `1 + 2()`, `== 1 !true`) and accepts ordinary inputs -/
example : illFormed [.plus, .int 1, .int 2] = true := by decide            -- `+ 1 2`
example : illFormed [.int 1, .plus, .int 2, .lBrace, .rBrace] = true := by decide   -- `1 + 2()`
example : illFormed [.eq, .int 1, .not, .boolean true] = true := by decide  -- `== 1 !true`
example : illFormed [.lBrace, .int 1] = true := by decide
example : illFormed [.int 1, .plus] = true := by decide
example : illFormed [.int 1, .plus, .minus, .int 2] = false := by decide    -- `1 + -2`
example : illFormed [.identifier ['f'], .identifier ['g'], .int 1] = false := by decide   -- `f g 1`
example : illFormed [.int 1, .comma, .semicolon, .int 2] = false := by decide  -- `1,;2`

end Evalexpr.Spec.C13

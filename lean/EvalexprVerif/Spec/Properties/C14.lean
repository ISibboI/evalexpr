/-
C14 — Identifier iterators describe exactly the identifiers of the expression.
`C14_preorder`: the explicit-stack loop of `NodeIter` visits exactly the descendants in pre-order, for
every tree (the fuel of the model loop suffices); `C14_mut_same` / `C14_mut_idents`: the mutable
iterator visits the same occurrences; `C14_classes` / `C14_class_sublist`: the class-specific
iterators are the corresponding sub-sequences; `C14_source`: on the tree of ANY expression AST the
iterators list every identifier occurrence in source order, correctly classified; `C14_unknown_var` /
`C14_unknown_fn`: evaluation can only report an unknown identifier the iterators list;
`C14_rename`: consistently (injectively) renaming the variables through the mutable iterator and in
the context does not change the result. The last three need user functions that do not themselves
answer with unknown-identifier errors (`NoFabricate`); without it the renaming claim is false
(`C14_rename_unrestricted_false`, proved). Proofs: Proofs/Iterators, ErrorSweep, IterEval, IterRename.
-/
import EvalexprVerif.Proofs.IteratorsSeq
import EvalexprVerif.Proofs.Iterators
import EvalexprVerif.Proofs.AgreeIter
import EvalexprVerif.Spec.Properties.C02
import EvalexprVerif.Proofs.AgreeFnSweep

namespace Evalexpr.Spec.C14
open Evalexpr Evalexpr.Spec

theorem C14_preorder (n : Node) : n.iter = preorderList n.children := Evalexpr.Spec.C14_preorder n
theorem C14_mut_same (n : Node) : n.iterOperatorsMut = n.iter.map (·.op) := Evalexpr.Spec.C14_mut_same n
theorem C14_mut_idents (n : Node) (k : IterKind) : n.iterIdentsMut k = n.iterIdents k :=
  Evalexpr.Spec.C14_mut_idents n k
theorem C14_classes (n : Node) (k : IterKind) :
    n.iterIdents k = ((identOccurrences n).filter (fun p => k.keeps p.1)).map (·.2) :=
  Evalexpr.Spec.C14_classes n k
theorem C14_class_sublist (n : Node) (k : IterKind) : (n.iterIdents k).Sublist (n.iterIdents .identifiers) :=
  Evalexpr.Spec.C14_class_sublist n k
/-- **C14 (source order and class)** -/
theorem C14_source (e : Expr) : identOccurrences ⟨.rootNode, [toTree e]⟩ = occ e := Evalexpr.Spec.C14_source e
/-- the same over the whole domain of C05: on the tree of ANY sequence level (chains of tuples of optional
operands, parenthesised levels, absent elements and empty groups `()`), the iterators list every identifier
occurrence in source order, correctly classified -/
theorem C14_source_level (l : Level) : identOccurrences (levelTree l) = occLevel l :=
  Evalexpr.Spec.C14_source_level l

/-- … and that is the tree the builder returns for the level's tokens -/
theorem C14_source_level_built (l : Level) (h : levelWf l = true) :
    (tokensToOperatorTree (renderLevel l)).map identOccurrences = .ok (occLevel l) :=
  Evalexpr.Spec.C14_source_level_built l h

/-- **C14 at the level of source text**: precompiling ANY admissible spelling (whitespace of every class,
comments, literals in every spelling) of the rendering of ANY expression AST yields a tree whose identifier
occurrences are exactly the source occurrences of the AST, in order and correctly classified
(`C02_string_ext` + `C14_source`) -/
theorem C14_source_string (e : Expr) (ps : List (Gap × PTok)) (g : Gap)
    (hts : ps.map (·.2.tok) = render e) (hp : ∀ p ∈ ps, p.2.PrintableX) (ha : AdmissibleX ps g) :
    (buildOperatorTree (renderFrom ps g)).map identOccurrences = .ok (occ e) := by
  rw [Evalexpr.Spec.C02.C02_string_ext e ps g hts hp ha]
  show Except.ok (identOccurrences ⟨.rootNode, [toTree e]⟩) = _
  rw [C14_source e]

/-- `a; ; f x, ()`: the occurrences after an absent element and before an empty group are all listed -/
example : occLevel [[some (.expr (.var cl!"a"))], [none], [some (.expr (.call cl!"f" (.var cl!"x"))), some (.group [[]])]]
    = [(.read, cl!"a"), (.function, cl!"f"), (.read, cl!"x")] := rfl

theorem C14_rename_occurrences (n : Node) (k : IterKind) (f : Str → Str) :
    identOccurrences (n.renameDesc k f) =
      (identOccurrences n).map (fun p => (p.1, if k.keeps p.1 then f p.2 else p.2)) := by
  obtain ⟨op, cs⟩ := n
  simp only [Node.renameDesc, identOccurrences_eq, occList_renameList]
theorem C14_unknown_var (e : Expr) (s : St) (x : Str) (hnf : NoFabricate s.ctx)
    (h : ((Node.mk .rootNode [toTree e]).evalMut s).1 = .error (.variableIdentifierNotFound x)) :
    x ∈ (Node.mk .rootNode [toTree e]).iterIdents .variable := Evalexpr.Spec.C14_unknown_var e s x hnf h
theorem C14_unknown_fn (e : Expr) (s : St) (f : Str) (hnf : NoFabricate s.ctx)
    (h : ((Node.mk .rootNode [toTree e]).evalMut s).1 = .error (.functionIdentifierNotFound f)) :
    f ∈ (Node.mk .rootNode [toTree e]).iterIdents .function := Evalexpr.Spec.C14_unknown_fn e s f hnf h
/-- **C14 (renaming)** -/
theorem C14_rename (e : Expr) (r : Str → Str) (hinj : Function.Injective r) (h : HashMapCtx)
    (log : List (Str × Value)) (hnf : NoFabricate (.hashMap h)) :
    let t : Node := ⟨.rootNode, [toTree e]⟩
    let out := t.evalMut ⟨.hashMap h, log⟩
    let out' := (t.renameDesc .variable r).evalMut ⟨.hashMap (renameVars r h), log⟩
    out'.1 = renameRes r out.1 ∧ out'.2.log = out.2.log ∧
      (∃ h₁, out.2.ctx = .hashMap h₁ ∧ out'.2.ctx = .hashMap (renameVars r h₁)) :=
  Evalexpr.Spec.C14_rename e r hinj h log hnf

/-- the same three facts over the whole domain of C05 (any sequence level) -/
theorem C14_unknown_var_level (l : Level) (s : St) (x : Str) (hnf : NoFabricate s.ctx)
    (h : ((levelTree l).evalMut s).1 = .error (.variableIdentifierNotFound x)) :
    x ∈ (levelTree l).iterIdents .variable := Evalexpr.Spec.C14_unknown_var_level l s x hnf h
theorem C14_unknown_fn_level (l : Level) (s : St) (f : Str) (hnf : NoFabricate s.ctx)
    (h : ((levelTree l).evalMut s).1 = .error (.functionIdentifierNotFound f)) :
    f ∈ (levelTree l).iterIdents .function := Evalexpr.Spec.C14_unknown_fn_level l s f hnf h
theorem C14_rename_level (l : Level) (r : Str → Str) (hinj : Function.Injective r) (h : HashMapCtx)
    (log : List (Str × Value)) (hnf : NoFabricate (.hashMap h)) :
    let t : Node := levelTree l
    let out := t.evalMut ⟨.hashMap h, log⟩
    let out' := (t.renameDesc .variable r).evalMut ⟨.hashMap (renameVars r h), log⟩
    out'.1 = renameRes r out.1 ∧ out'.2.log = out.2.log ∧
      (∃ h₁, out.2.ctx = .hashMap h₁ ∧ out'.2.ctx = .hashMap (renameVars r h₁)) :=
  Evalexpr.Spec.C14_rename_level l r hinj h log hnf

/-- `d = a + f(b + c)`: write d, read a, function f, read b, read c -/
example : occ (.assign .assign ['d'] (.bin .add (.var ['a']) (.call ['f'] (.paren (.bin .add (.var ['b']) (.var ['c']))))))
    = [(.write, ['d']), (.read, ['a']), (.function, ['f']), (.read, ['b']), (.read, ['c'])] := rfl
/-- the hypothesis is satisfiable: a context with ordinary functions does not fabricate -/
example : NoFabricate (.hashMap { funs := [(['f'], fun v => .ok v)] }) := by
  intro id f arg x hf
  simp only [Ctx.userFn, alookup] at hf
  split at hf
  · cases hf; constructor <;> intro h <;> cases h
  · cases hf

/-! ### about the code as translated on this run
`Gen.Node.iter_*identifiers*` are the bodies of the ten adaptors of src/tree/mod.rs rendered by `translate_fn.py` (their
`filter_map` closures over the list the translated `NodeIter::next` loop yields, `fn_Node_iter_agree`). -/

/-- on the tree of ANY expression AST the rendered `iter_identifiers` lists the source occurrences in order, and every rendered
class-specific iterator the occurrences of its class; the rendered mutable variants list the same and leave the tree as it is -/
theorem C14_source_generated (e : Expr) :
    let t : Node := ⟨.rootNode, [toTree e]⟩
    Gen.Node.iter_identifiers t = (occ e).map (·.2) ∧
    Gen.Node.iter_read_variable_identifiers t = ((occ e).filter (fun p => IterKind.readVariable.keeps p.1)).map (·.2) ∧
    Gen.Node.iter_write_variable_identifiers t = ((occ e).filter (fun p => IterKind.writeVariable.keeps p.1)).map (·.2) ∧
    Gen.Node.iter_function_identifiers t = ((occ e).filter (fun p => IterKind.function.keeps p.1)).map (·.2) ∧
    Gen.Node.iter_variable_identifiers t = ((occ e).filter (fun p => IterKind.variable.keeps p.1)).map (·.2) ∧
    (Gen.Node.iter_identifiers_mut t).1 = Gen.Node.iter_identifiers t ∧ (Gen.Node.iter_identifiers_mut t).2 = t := by
  intro t
  have hs : identOccurrences t = occ e := C14_source e
  refine ⟨?_, ?_, ?_, ?_, ?_, ?_, ?_⟩
  · rw [AgreeFn.fn_Node_iter_identifiers_agree, C14_classes, hs]
    exact congrArg _ (List.filter_eq_self.2 fun _ _ => rfl)
  · rw [AgreeFn.fn_Node_iter_read_variable_identifiers_agree, C14_classes, hs]
  · rw [AgreeFn.fn_Node_iter_write_variable_identifiers_agree, C14_classes, hs]
  · rw [AgreeFn.fn_Node_iter_function_identifiers_agree, C14_classes, hs]
  · rw [AgreeFn.fn_Node_iter_variable_identifiers_agree, C14_classes, hs]
  · rw [(AgreeFn.fn_Node_iter_identifiers_mut_agree t).1, AgreeFn.fn_Node_iter_identifiers_agree, C14_mut_idents]
  · exact (AgreeFn.fn_Node_iter_identifiers_mut_agree t).2

end Evalexpr.Spec.C14

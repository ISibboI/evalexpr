/-
C10 — Builtin functions compute what the documentation says.
`C10_builtin_gen`: EVERY builtin on EVERY argument value meets the reference `Spec.refBuiltin`
(written from the README's function table): the exact value, an error where the documentation says
error (never a made-up value, never a panic), an argument that bounds all arguments for min/max, no
panic at the unclaimed points; among the 49 cases value-exact shifts (`shl_exact`/`shr_exact`), checked `abs`,
byte-consistent `len`/`str::substring`.
Two side conditions, both explicit in the statement and explained at `Spec.C10_builtin_gen` (Proofs/BuiltinMeets.lean):
`SizeOk arg` for `len`, and the hypotheses (not axioms) `FloatOrderLaws` about `Int64.toFloat` for min/max on MIXED ints and
floats. `C10_builtin_unconditional` covers the other 46 builtins with no hypothesis at all.
-/
import EvalexprVerif.Proofs.BuiltinMeets
import EvalexprVerif.Proofs.AgreeBuiltin
import EvalexprVerif.Proofs.AgreeNumeric
import EvalexprVerif.Proofs.AgreeFnBuiltin

namespace Evalexpr.Spec.C10
open Evalexpr Evalexpr.Spec

theorem C10_builtin_gen (b : Builtin) (arg : Value)
    (hsz : b = .len → SizeOk arg)
    (hl : b = .min ∨ b = .max → MixedArgs (minMaxArgs arg) → FloatOrderLaws) :
    MeetsB (b.call arg) (refBuiltin b arg) := Evalexpr.Spec.C10_builtin_gen b arg hsz hl
theorem C10_builtin_unconditional (b : Builtin) (arg : Value)
    (h1 : b ≠ .len) (h2 : b ≠ .min) (h3 : b ≠ .max) : MeetsB (b.call arg) (refBuiltin b arg) :=
  Evalexpr.Spec.C10_builtin_unconditional b arg h1 h2 h3
theorem C10_len (arg : Value) (h : SizeOk arg) : MeetsB (Builtin.call .len arg) (refBuiltin .len arg) :=
  (meets_len arg h).meetsB
theorem C10_len_counterexample :
    ¬ MeetsB (Builtin.call .len (.tuple (List.replicate (2 ^ 63) .empty)))
      (refBuiltin .len (.tuple (List.replicate (2 ^ 63) .empty))) := Evalexpr.Spec.C10_len_counterexample
/-- min/max: unconditional unless ints and floats are mixed -/
theorem C10_minmax_unmixed (arg : Value) (h : ¬ MixedArgs (minMaxArgs arg)) :
    MeetsB (Builtin.call .min arg) (refBuiltin .min arg) ∧
    MeetsB (Builtin.call .max arg) (refBuiltin .max arg) := Evalexpr.Spec.C10_minmax_unmixed arg h
theorem C10_minmax (laws : FloatOrderLaws) (arg : Value) :
    MeetsB (Builtin.call .min arg) (refBuiltin .min arg) ∧
    MeetsB (Builtin.call .max arg) (refBuiltin .max arg) := Evalexpr.Spec.C10_minmax laws arg
/-- no builtin ever panics, on any argument (used by C01) -/
theorem C10_no_panic (b : Builtin) (arg : Value) : (b.call arg).isPanic = false := Evalexpr.Spec.C10_no_panic b arg
/-- shifts by 0..63 are exact two's-complement shifts -/
theorem C10_shl_exact (a k : Int64) (h0 : 0 ≤ k.toInt) (h1 : k.toInt ≤ 63) :
    a <<< k = Int64.ofInt (a.toInt * 2 ^ k.toInt.toNat) := shl_exact a k h0 h1
theorem C10_shr_exact (a k : Int64) (h0 : 0 ≤ k.toInt) (h1 : k.toInt ≤ 63) :
    a >>> k = Int64.ofInt (a.toInt / 2 ^ k.toInt.toNat) := shr_exact a k h0 h1
/-- `len` and `str::substring` use the same unit -/
theorem C10_len_substring (s t : Str) (a b : Int64)
    (h : Builtin.call .strSubstring (.tuple [.string s, .int a, .int b]) = .ok (.string t)) :
    (utf8Len t : Int) = b.toInt - a.toInt := Evalexpr.Spec.C10_len_substring s t a b h
theorem C10_substring_full (s : Str) (hs : utf8Len s < 2 ^ 63) :
    Builtin.call .strSubstring (.tuple [.string s, .int 0, .int (Int64.ofNat (utf8Len s))]) = .ok (.string s) :=
  Evalexpr.Spec.C10_substring_full s hs
/-- wrong arity or wrong argument types give an error, never a value: e.g. every math function on a non-number -/
theorem C10_math_type_error (arg : Value) (h : num? arg = none) :
    ∃ e, Builtin.call .sin arg = .error e ∧ e.isPanic = false := by
  have := (meets_math1 Float.sin arg).meetsB
  rw [math1, h] at this
  exact this

/-- the side conditions are satisfiable at ordinary arguments -/
example : SizeOk (.string cl!"äb") := by show utf8Len cl!"äb" < 2 ^ 63; decide
example : ¬ MixedArgs (minMaxArgs (.tuple [.float 1.5, .float 2.5])) := by
  rintro ⟨⟨i, hi⟩, _⟩
  simp [minMaxArgs] at hi
/-- `math::abs` of the minimal integer is an error (it panicked before the fix 29fd79a of /repo) -/
example : ∃ e, Builtin.call .abs (.int (-9223372036854775808)) = .error e ∧ e.isPanic = false := by
  have := C10_builtin_unconditional .abs (.int (-9223372036854775808)) (by decide) (by decide) (by decide)
  exact this

/-- **C10 about the code as translated on this run**: `Gen.builtin_function` is the body of `builtin_function`
(src/function/builtin.rs) rendered by `translate_fn.py` — the dispatch on the name, every closure, the expansions of
`simple_math!` / `int_function!`. Whatever name it resolves, the resolved closure meets the documented reference on every
argument (under the two stated hypotheses for `len` / mixed `min` / `max`), and it resolves exactly the documented names. -/
theorem C10_builtin_generated (id : Str) (arg : Value) (f : Value → Res Value)
    (hf : Gen.builtin_function id = some f) :
    ∃ b, builtinFunction id = some b ∧ f arg = b.call arg ∧
      ((b = .len → SizeOk arg) → (b = .min ∨ b = .max → MixedArgs (minMaxArgs arg) → FloatOrderLaws) →
        MeetsB (f arg) (refBuiltin b arg)) := by
  have h := AgreeFn.fn_builtin_function_agree id arg
  rw [hf] at h
  cases hb : builtinFunction id with
  | none => rw [hb] at h; cases h
  | some b =>
    rw [hb] at h
    simp only [Option.map_some, Option.some.injEq] at h
    exact ⟨b, rfl, h, fun h1 h2 => h ▸ C10_builtin_gen b arg h1 h2⟩

end Evalexpr.Spec.C10
